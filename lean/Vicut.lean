import Vicut.Props.C01
import Vicut.Props.C02
import Vicut.Props.C03
import Vicut.Props.C04
import Vicut.Props.C05
import Vicut.Props.C06
import Vicut.Props.C07
import Vicut.Props.C08
import Vicut.Props.C09
import Vicut.Props.C10
import Vicut.Props.C11
import Vicut.Props.C12
import Vicut.Props.C13
import Vicut.Props.C14
import Vicut.Props.C15
import Vicut.Props.C16
import Vicut.Props.C17
import Vicut.Props.C18
import Vicut.Props.C19
import Vicut.Props.C20
