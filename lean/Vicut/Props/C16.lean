/-
C16 — ex line commands match line-oriented reference semantics.
The reference (`Model/ExRef.lean`) is the specification; here are the facts a user relies on,
for every text, range and matcher, plus the tie of `$`/`%` to the buffer's line decomposition.
-/
import Vicut.Model.ExRef
import Vicut.Props.C13
import Vicut.Lemmas.Basics

namespace Vicut.C16
open Vicut

theorem resolveLine_in_range (n cur : Nat) (a : Addr) (i : Nat) (h : resolveLine n cur a = some i) : i < n := by
  obtain ⟨hlt, heq⟩ := Option.ite_none_right_eq_some.mp h
  cases heq
  exact hlt

theorem resolveRange_in_range (n cur : Nat) (a b : Addr) (s e : Nat) (h : resolveRange n cur a b = some (s, e)) :
    s ≤ e ∧ e < n := by
  obtain ⟨hs, heq⟩ := Option.ite_none_right_eq_some.mp h
  cases heq
  exact ⟨Nat.le_min.mpr ⟨Nat.min_le_max _ _, Nat.le_sub_one_of_lt hs⟩,
    Nat.lt_of_le_of_lt (Nat.min_le_right _ _) (Nat.sub_one_lt (Nat.ne_of_gt (Nat.zero_lt_of_lt hs)))⟩

/-- **A backwards range addresses the same lines.** -/
theorem range_reversed_same (n cur : Nat) (a b : Addr) : resolveRange n cur a b = resolveRange n cur b a := by
  unfold resolveRange
  simp only [Nat.min_comm, Nat.max_comm]

theorem dollar_is_last (n cur : Nat) (h : 0 < n) : resolveLine n cur .last = some (n - 1) :=
  if_pos (Nat.sub_one_lt (Nat.ne_of_gt h))

theorem percent_is_all (n cur : Nat) (h : 0 < n) : resolveRange n cur (.num 1) .last = some (0, n - 1) := by
  show (if min 0 (n - 1) < n then some (min 0 (n - 1), min (max 0 (n - 1)) (n - 1)) else none) = _
  rw [Nat.zero_min, Nat.zero_max, Nat.min_self, if_pos h]

theorem out_of_range_is_nothing (n cur k : Nat) (h : n < k) : resolveLine n cur (.num k) = none :=
  if_neg (Nat.not_lt.mpr (Nat.le_sub_one_of_lt h))

/-- A range that reaches past the end is clipped to the last line. -/
theorem range_clipped (n cur a b : Nat) (ha : 1 ≤ a) (hab : a ≤ b) (han : a ≤ n) (hb : n < b) :
    resolveRange n cur (.num a) (.num b) = some (a - 1, n - 1) := by
  have hab' : a - 1 ≤ b - 1 := Nat.sub_le_sub_right hab 1
  show (if min (a - 1) (b - 1) < n then some (min (a - 1) (b - 1), min (max (a - 1) (b - 1)) (n - 1)) else none) = _
  rw [Nat.min_eq_left hab', Nat.max_eq_right hab', if_pos (Nat.lt_of_lt_of_le (Nat.sub_one_lt (Nat.ne_of_gt ha)) han),
    Nat.min_eq_right (Nat.sub_le_sub_right (Nat.le_of_lt hb) 1)]

theorem last_char_build (bodies : List (List Gr)) (t : Bool) (hb : ∀ b ∈ bodies, C13.Body b)
    (hc : C13.Canonical bodies t) (hne : ∀ b ∈ bodies, ∀ g ∈ b, g ≠ []) :
    (C13.build bodies t).flatten.getLast? = some '\n' ↔ t = true := by
  obtain ⟨ls, b, rfl⟩ : ∃ ls b, bodies = ls ++ [b] := ⟨_, _, (List.dropLast_concat_getLast hc.1).symm⟩
  rw [C13.build_append ls (List.cons_ne_nil b []), List.flatten_append, List.getLast?_append]
  cases t with
  | true => simp [C13.build_true]
  | false =>
    -- the text ends with the last character of the non-empty last body, which is no newline
    have hbne : b ≠ [] := by simpa using hc.2 rfl
    obtain ⟨g, hg⟩ := List.exists_mem_of_ne_nil b hbne
    have hfl : b.flatten ≠ [] := List.flatten_ne_nil_iff.mpr ⟨g, hg, hne b (by simp) g hg⟩
    rw [show C13.build [b] false = b from rfl, Option.or_of_isSome (List.getLast?_isSome.mpr hfl)]
    exact iff_of_false (hb b (by simp)).getLast?_ne Bool.false_ne_true

/-- **`$` on the real buffer**: for a buffer with line bodies `bodies`, `last_line_number()` is the
index of the last body — whether or not the last line is terminated. -/
theorem lastLineNumber_build (bodies : List (List Gr)) (t : Bool) (hb : ∀ b ∈ bodies, C13.Body b)
    (hc : C13.Canonical bodies t) (hne : ∀ b ∈ bodies, ∀ g ∈ b, g ≠ []) :
    lastLineNumber (C13.build bodies t) = bodies.length - 1 := by
  have hpos : 0 < bodies.length := List.length_pos_iff.mpr hc.1
  rw [lastLineNumber, C13.totalLines_build bodies t hb hc.1]
  simp only [last_char_build bodies t hb hc hne]
  cases t <;> simp [hpos]

theorem replaceRanges_nil (line rep : Str) : replaceRanges line rep [] = line := rfl

/-- One match: the text before it, the replacement, the text after it. -/
theorem replaceRanges_one (line rep : Str) (s e : Nat) :
    replaceRanges line rep [(s, e)] = line.take s ++ rep ++ line.drop e := rfl

/-- No match on a line leaves it alone, with or without `g`. -/
theorem substLine_no_match (rep line : Str) (g : Bool) : substLine rep g [] line = line := by
  cases g <;> rfl

/-- Without `g` only the first match is replaced. -/
theorem substLine_first_only (rep line : Str) (m : Nat × Nat) (ms : List (Nat × Nat)) :
    substLine rep false (m :: ms) line = line.take m.1 ++ rep ++ line.drop m.2 := rfl

theorem mapRange_length (f : Str → Str) (s e : Nat) (ps : List Piece) : (mapRange f s e ps).length = ps.length := by
  simp [mapRange]

/-- **`:s` changes exactly the addressed lines**: a line outside `s ..= e` is untouched, inside it
becomes its substitution. -/
theorem subst_only_addressed (f : Str → Str) (s e : Nat) (ps : List Piece) (i : Nat) (hi : i < ps.length) :
    (mapRange f s e ps)[i]? =
      some (if s ≤ i ∧ i ≤ e then { ps[i] with text := f ps[i].text } else ps[i]) := by
  simp [mapRange, hi]

theorem subst_keeps_terminators (f : Str → Str) (s e : Nat) (ps : List Piece) :
    (mapRange f s e ps).map (·.nl) = ps.map (·.nl) := by
  unfold mapRange
  apply List.ext_getElem
  · simp
  · intro i h1 h2
    simp only [List.getElem_map, List.getElem_zip, List.getElem_range]
    split <;> rfl

/-- **`:d` removes exactly the addressed lines** and keeps the others in order. -/
theorem delete_exact (s e : Nat) (ps : List Piece) (hs : s ≤ e) (he : e < ps.length) :
    (refDelete s e ps).length = ps.length - (e - s + 1) ∧
    refDelete s e ps = ps.take s ++ ps.drop (e + 1) := by
  have := List.length_take_append_drop ps s (e - s + 1)
  rw [← Nat.add_assoc, Nat.add_sub_cancel' hs, Nat.min_eq_left (Nat.sub_lt_sub_right hs he)] at this
  exact ⟨this, rfl⟩

/-- `:y` is the text of the addressed lines with their terminators. -/
theorem yank_is_text (s e : Nat) (ps : List Piece) :
    refYank s e ps = ((ps.drop s).take (e + 1 - s)).flatMap Piece.render := by
  simp [refYank, renderPieces, List.flatMap]

/-- **`:g/pat/d` over the whole buffer** keeps exactly the lines that do not match (`:g!` the ones
that do). -/
theorem global_delete_all (isMatch : Str → Bool) (pol : Bool) (ps : List Piece) :
    refGlobalDelete isMatch pol 0 (ps.length - 1) ps = ps.filter (fun p => !(isMatch p.text == pol)) := by
  -- every index is addressed, so the index plays no part
  have hsnd : ((List.range ps.length).zip ps).map Prod.snd = ps := List.map_snd_zip (by simp)
  conv => rhs; rw [← hsnd, ← List.filterMap_eq_filter, List.filterMap_map]
  refine List.filterMap_congr fun ⟨i, p⟩ hx => ?_
  have hi : i < ps.length := List.mem_range.mp (List.of_mem_zip hx).1
  have : 0 ≤ i ∧ i ≤ ps.length - 1 := ⟨Nat.zero_le i, Nat.le_sub_one_of_lt hi⟩
  cases hm : (isMatch p.text == pol) <;> simp [this, hm, Option.guard]

example : renderPieces [⟨['a'], true⟩, ⟨['b'], false⟩] = "a\nb".toList := by decide +kernel
example : refDelete 1 1 [⟨['a'], true⟩, ⟨['b'], true⟩, ⟨['c'], false⟩] = [⟨['a'], true⟩, ⟨['c'], false⟩] := by decide +kernel
example : substLine ['X'] true [(0, 1), (2, 3)] "abab".toList = "XbXb".toList := by decide +kernel
example : resolveRange 3 0 (.num 3) (.num 1) = some (0, 2) := by decide +kernel

end Vicut.C16
