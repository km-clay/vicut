/-
C15 — key notations are interchangeable and every key string is consumed.
Stated on the reader's byte queue for arbitrary following bytes `post`, so the equalities hold in any
context; the modes consume `KeyEvent`s only (`exec_loop` calls `mode.handle_key(read_key())`), hence
`behaviour_follows_keys`.
-/
import Vicut.Gen.Tables
import Vicut.Lemmas.Basics

namespace Vicut.C15
open Vicut

theorem alias_table_is_source :
    ∀ p ∈ Gen.aliasTable, aliasNamed (bstr p.1) = some p.2 := by decide +kernel

theorem control_table_is_source :
    ∀ r ∈ Gen.controlTable, keyEventOfChar (Char.ofNat r.1) = ⟨r.2.1, r.2.2⟩ := by decide +kernel

theorem esc_digit_table_is_source :
    ∀ r ∈ Gen.escDigitTable, escDigitsKey (r.1.map (fun n => UInt8.ofNat n)) = r.2 := by decide +kernel

/-- Against names copied by hand from `aliasNamed`, which does not occur here: completeness is by eye. -/
theorem alias_names_complete :
    ∀ n ∈ ["esc", "CR", "return", "enter", "tab", "BS", "del", "ins", "home", "end", "left", "right", "up",
      "down", "pgup", "pgdown"], (Gen.aliasTable.map Prod.fst).contains n = true := by decide +kernel

/-- The literal is copied by hand from `stripMods`, which does not occur here. -/
theorem alias_mods_are_source :
    Gen.aliasMods = [("c-", "CTRL"), ("s-", "SHIFT"), ("a-", "ALT")] := rfl

theorem readKey_cons (byte : UInt8) (rest : Bytes) (e : Bool) :
    readKey ⟨byte :: rest, e⟩ =
      match (if byte = 60 ∧ !e then parseByteAlias rest else none) with
      | some (k, rest') => (some k, ⟨rest', e⟩)
      | none =>
        if byte = 0x1b ∧ (rest.head? = some 91 ∨ rest.head? = some 79) then
          ((parseEscSeq rest).1, ⟨(parseEscSeq rest).2, if byte = 92 then !e else false⟩)
        else
          match decodeOne [byte] with
          | some c => (some (keyEventOfChar c), ⟨rest, if byte = 92 then !e else false⟩)
          | none => collectKey 3 rest (if byte = 92 then !e else false) [byte] := by
  unfold readKey
  rw [collectKey]
  -- nothing collected yet: `collected ++ [byte] = [0x1b]` is `byte = 0x1b`
  simp only [List.nil_append, List.length_cons, List.length_nil, List.cons.injEq, and_true]
  cases (if byte = 60 ∧ (!e) = true then parseByteAlias rest else none) with
  | none => rfl
  | some p => rfl

/-- An ASCII byte that opens neither an alias nor an escape sequence is one key. -/
theorem readKey_ascii (b : UInt8) (rest : Bytes) (e : Bool) (hb : b < 0x80)
    (ha : b ≠ 60 ∨ e = true ∨ parseByteAlias rest = none)
    (hesc : b ≠ 0x1b ∨ (rest.head? ≠ some 91 ∧ rest.head? ≠ some 79)) :
    readKey ⟨b :: rest, e⟩
      = (some (keyEventOfChar (Char.ofNat b.toNat)), ⟨rest, if b = 92 then !e else false⟩) := by
  have h1 : (if b = 60 ∧ !e then parseByteAlias rest else none) = none := by
    rcases ha with h | h | h <;> simp [h]
  have h2 : ¬ (b = 0x1b ∧ (rest.head? = some 91 ∨ rest.head? = some 79)) :=
    fun ⟨hb, hr⟩ => hesc.elim (· hb) fun h => hr.elim h.1 h.2
  rw [readKey_cons, h1]
  simp only [if_neg h2, decodeOne, if_pos hb]

/-- A backslash is itself a key, and flips the escape flag. -/
theorem backslash_key (rest : Bytes) (e : Bool) :
    readKey ⟨92 :: rest, e⟩ = (some ⟨.char '\\', 0⟩, ⟨rest, !e⟩) :=
  readKey_ascii 92 rest e (by decide) (.inl (by decide)) (.inl (by decide))

/-- `UInt8`'s `==` is `decide (· = ·)`. -/
theorem notGt_of_ne {l : Bytes} (h : ∀ b ∈ l, b ≠ 62) : ∀ b ∈ l, notGt b = true :=
  fun b hb => congrArg not (decide_eq_false (h b hb))

/-- `parse_byte_alias` looks no further than the first `>`. -/
theorem parseByteAlias_closed (name post : Bytes) (h : ∀ b ∈ name, b ≠ 62) :
    parseByteAlias (name ++ 62 :: post) = (aliasKey name).map (·, post) := by
  have h := notGt_of_ne h
  simp [parseByteAlias, List.takeWhile_append_of_pos h, List.dropWhile_append_of_pos h, notGt]

theorem parseByteAlias_open (rest : Bytes) (h : ∀ b ∈ rest, b ≠ 62) : parseByteAlias rest = none := by
  have hd : rest.dropWhile notGt = [] := by
    simpa using List.dropWhile_append_of_pos (l₂ := []) (notGt_of_ne h)
  simp [parseByteAlias, hd]

theorem lt_literal (rest : Bytes) (e : Bool) (h : e = true ∨ parseByteAlias rest = none) :
    readKey ⟨60 :: rest, e⟩ = (some ⟨.char '<', 0⟩, ⟨rest, false⟩) :=
  readKey_ascii 60 rest e (by decide) (.inr h) (.inl (by decide))

/-- After a backslash, `<` is literal whatever follows (even a valid alias name). -/
theorem escaped_lt_literal (rest : Bytes) :
    readKey ⟨60 :: rest, true⟩ = (some ⟨.char '<', 0⟩, ⟨rest, false⟩) :=
  lt_literal rest true (.inl rfl)

/-- **`<` with no `>` after it is a literal `<`**: `<<G` at the end of an argument reads `<`, `<`, `G` as
in the middle of one (before fix c4716f8 the tail `<G` was taken as an alias name). -/
theorem unterminated_alias_is_literal (rest : Bytes) (e : Bool) (h : ∀ b ∈ rest, b ≠ 62) :
    readKey ⟨60 :: rest, e⟩ = (some ⟨.char '<', 0⟩, ⟨rest, false⟩) :=
  lt_literal rest e (.inr (parseByteAlias_open rest h))

theorem readKey_ascii_unreserved (b : UInt8) (post : Bytes) (e : Bool)
    (h : b < 0x80 ∧ b ≠ 60 ∧ b ≠ 92 ∧ b ≠ 0x1b) :
    readKey ⟨b :: post, e⟩ = (some (keyEventOfChar (Char.ofNat b.toNat)), ⟨post, false⟩) := by
  rw [readKey_ascii b post e h.1 (.inl h.2.1) (.inl h.2.2.2), if_neg h.2.2.1]

theorem readKey_esc (post : Bytes) (e : Bool) (h : post.head? ≠ some 91 ∧ post.head? ≠ some 79) :
    readKey ⟨0x1b :: post, e⟩ = (some ⟨.esc, 0⟩, ⟨post, false⟩) :=
  readKey_ascii 0x1b post e (by decide) (.inl (by decide)) (.inr h)

theorem keyEventOfChar_printable (c : Char) (h : 32 ≤ c.toNat ∧ c.toNat < 127) :
    keyEventOfChar c = ⟨.char c, 0⟩ := by
  unfold keyEventOfChar
  rw [if_neg (Nat.not_lt.mpr h.1), if_neg (Nat.ne_of_lt h.2), if_neg (by omega), if_neg (by omega)]

/-- Printable ASCII other than `<` and `\` is read character by character. -/
theorem plain_ascii_key (b : UInt8) (post : Bytes) (e : Bool) (h : 32 ≤ b ∧ b < 127) (h1 : b ≠ 60) (h2 : b ≠ 92) :
    readKey ⟨b :: post, e⟩ = (some ⟨.char (Char.ofNat b.toNat), 0⟩, ⟨post, false⟩) := by
  -- `UInt8`'s `≤` and `<` are by definition those of `toNat`: `h` serves as the bounds on `b.toNat`
  rw [readKey_ascii_unreserved b post e
      ⟨UInt8.lt_trans h.2 (by decide), h1, h2, fun hb => absurd (hb ▸ h.1) (by decide)⟩,
    keyEventOfChar_printable _ ((Char.toNat_ofNat (Nat.lt_trans h.2 (by decide))).symm ▸ h)]

theorem readKey_escSeq (c : UInt8) (rest : Bytes) (e : Bool) (hc : c = 91 ∨ c = 79) :
    readKey ⟨0x1b :: c :: rest, e⟩
      = ((parseEscSeq (c :: rest)).1, ⟨(parseEscSeq (c :: rest)).2, false⟩) := by
  rw [readKey_cons]
  rcases hc with rfl | rfl <;> rfl

theorem alias_read {name : Bytes} {k : KeyEvent} (post : Bytes) (h : ∀ b ∈ name, b ≠ 62)
    (hk : aliasKey name = some k) :
    readKey ⟨60 :: (name ++ 62 :: post), false⟩ = (some k, ⟨post, false⟩) := by
  rw [readKey_cons, parseByteAlias_closed name post h, hk]
  rfl

theorem aliasKey_named {buf : Bytes} {k : KeyCode} (hk : aliasNamed buf = some k) (hne : buf ≠ [])
    (hm : stripMods buf.length buf 0 = (0, buf)) : aliasKey buf = some ⟨k, 0⟩ := by
  simp [aliasKey, hne, hm, hk]

/-- **Every row of the source's alias table**: `<name>` is consumed as that one key, whatever follows.
(`"<" ++ name ++ ">"`: a literal `bstr "<left>"` unifies with this cheaply, with a `60 :: …` form not.) -/
theorem alias_table_read : ∀ p ∈ Gen.aliasTable, ∀ post : Bytes,
    readKey ⟨bstr ("<" ++ p.1 ++ ">") ++ post, false⟩ = (some ⟨p.2, 0⟩, ⟨post, false⟩) := by
  have plain : ∀ p ∈ Gen.aliasTable, bstr p.1 ≠ [] ∧
      stripMods (bstr p.1).length (bstr p.1) 0 = (0, bstr p.1) ∧ ∀ b ∈ bstr p.1, b ≠ 62 := by decide +kernel
  intro p hp post
  obtain ⟨hne, hm, hgt⟩ := plain p hp
  have : bstr ("<" ++ p.1 ++ ">") ++ post = 60 :: (bstr p.1 ++ 62 :: post) := by
    simp [bstr]
  rw [this]
  exact alias_read post hgt (aliasKey_named (alias_table_is_source p hp) hne hm)

theorem aliasKey_ctrl (x : UInt8) (h : byteIsAlnum x = true) :
    aliasKey [99, 45, x] = some ⟨.char (Char.ofNat (asciiUpper x).toNat), CTRL⟩ := by
  -- every name in `aliasNamed` is longer than one byte
  have : aliasNamed [x] = none := by simp [aliasNamed, bstr]
  simp [aliasKey, stripMods, this, h]

/-- `<c-x>` for a letter x reads as the raw control byte `x & 0x1f` does, unless that byte has a key of
its own (BS, TAB, CR). -/
theorem alias_ctrl_read (n : Fin 26) (post : Bytes) (h : n.val + 1 ≠ 8 ∧ n.val + 1 ≠ 9 ∧ n.val + 1 ≠ 13) :
    readKey ⟨60 :: ([99, 45, UInt8.ofNat (97 + n.val)] ++ 62 :: post), false⟩
      = (some (keyEventOfChar (Char.ofNat (n.val + 1))), ⟨post, false⟩) := by
  -- Ctrl + upper case is what `KeyEvent::new` makes of the control byte
  have letters : ∀ n : Fin 26, (n.val + 1 ≠ 8 ∧ n.val + 1 ≠ 9 ∧ n.val + 1 ≠ 13) →
      byteIsAlnum (UInt8.ofNat (97 + n.val)) = true ∧
      (∀ b ∈ [99, 45, UInt8.ofNat (97 + n.val)], b ≠ 62) ∧
      (⟨.char (Char.ofNat (asciiUpper (UInt8.ofNat (97 + n.val))).toNat), CTRL⟩ : KeyEvent)
        = keyEventOfChar (Char.ofNat (n.val + 1)) := by decide +kernel
  obtain ⟨hal, hgt, hkey⟩ := letters n h
  exact hkey ▸ alias_read post hgt (aliasKey_ctrl _ hal)

/-- The documented pairs: alias and raw byte(s) read as the same key and leave the same reader, whatever
follows (raw ESC: not followed by `[`/`O`, which would start an escape sequence). -/
theorem alias_eq_raw_esc (post : Bytes) (h : post.head? ≠ some 91 ∧ post.head? ≠ some 79) :
    readKey ⟨bstr "<esc>" ++ post, false⟩ = readKey ⟨0x1b :: post, false⟩ := by
  rw [readKey_esc post false h]
  exact alias_table_read ("esc", .esc) (by repeat constructor) post

theorem alias_eq_raw_enter (post : Bytes) :
    readKey ⟨bstr "<enter>" ++ post, false⟩ = readKey ⟨13 :: post, false⟩ ∧
    readKey ⟨bstr "<return>" ++ post, false⟩ = readKey ⟨13 :: post, false⟩ := by
  rw [readKey_ascii_unreserved 13 post false (by decide)]
  exact ⟨alias_table_read ("enter", .enter) (by repeat constructor) post,
         alias_table_read ("return", .enter) (by repeat constructor) post⟩

theorem alias_eq_raw_bs (post : Bytes) :
    readKey ⟨bstr "<BS>" ++ post, false⟩ = readKey ⟨0x7f :: post, false⟩ ∧
    readKey ⟨bstr "<BS>" ++ post, false⟩ = readKey ⟨8 :: post, false⟩ := by
  rw [readKey_ascii_unreserved 0x7f post false (by decide),
      readKey_ascii_unreserved 8 post false (by decide)]
  have := alias_table_read ("BS", .backspace) (by repeat constructor) post
  exact ⟨this, this⟩

theorem alias_eq_raw_arrows (post : Bytes) :
    readKey ⟨bstr "<left>" ++ post, false⟩ = readKey ⟨0x1b :: 91 :: 68 :: post, false⟩ ∧
    readKey ⟨bstr "<right>" ++ post, false⟩ = readKey ⟨0x1b :: 91 :: 67 :: post, false⟩ ∧
    readKey ⟨bstr "<up>" ++ post, false⟩ = readKey ⟨0x1b :: 91 :: 65 :: post, false⟩ ∧
    readKey ⟨bstr "<down>" ++ post, false⟩ = readKey ⟨0x1b :: 91 :: 66 :: post, false⟩ := by
  simp only [readKey_escSeq _ _ _ (.inl rfl)]
  exact ⟨alias_table_read ("left", .left) (by repeat constructor) post,
         alias_table_read ("right", .right) (by repeat constructor) post,
         alias_table_read ("up", .up) (by repeat constructor) post,
         alias_table_read ("down", .down) (by repeat constructor) post⟩

theorem alias_eq_raw_nav (post : Bytes) :
    readKey ⟨bstr "<del>" ++ post, false⟩ = readKey ⟨0x1b :: 91 :: 51 :: 126 :: post, false⟩ ∧
    readKey ⟨bstr "<home>" ++ post, false⟩ = readKey ⟨0x1b :: 91 :: 49 :: 126 :: post, false⟩ ∧
    readKey ⟨bstr "<end>" ++ post, false⟩ = readKey ⟨0x1b :: 91 :: 52 :: 126 :: post, false⟩ := by
  simp only [readKey_escSeq _ _ _ (.inl rfl)]
  exact ⟨alias_table_read ("del", .delete) (by repeat constructor) post,
         alias_table_read ("home", .home) (by repeat constructor) post,
         alias_table_read ("end", .end_) (by repeat constructor) post⟩

theorem escDigits_suffix (bs ds : Bytes) : (escDigits bs ds).2 <:+ bs := by
  fun_induction escDigits bs ds with
  | case1 => exact List.suffix_refl _
  | case2 | case4 => exact List.suffix_cons ..
  | case3 _ _ _ _ _ ih => exact ih.trans (List.suffix_cons ..)

/-- What is left is nothing (the input ran out), `rest2` after `ESC [ x` or `ESC O x`, what the digit loop
leaves, or `rest` after an ESC on its own. -/
theorem parseEscSeq_suffix (rest : Bytes) : (parseEscSeq rest).2 <:+ rest := by
  fun_cases parseEscSeq rest with
  | case1 | case2 | case9 => exact List.nil_suffix
  | case3 | case4 | case5 | case6 | case8 | case10 => exact (List.suffix_cons ..).trans (List.suffix_cons ..)
  | case7 => exact (escDigits_suffix ..).trans ((List.suffix_cons ..).trans (List.suffix_cons ..))
  | case11 => exact List.suffix_cons ..

theorem parseByteAlias_suffix {bs rest : Bytes} {k : KeyEvent} (h : parseByteAlias bs = some (k, rest)) :
    rest <:+ bs := by
  simp only [parseByteAlias] at h
  split at h
  · exact absurd h (by simp)
  · obtain ⟨_, _, h⟩ := Option.map_eq_some_iff.mp h
    exact (Prod.mk.inj h).2 ▸ (List.drop_suffix 1 _).trans (List.dropWhile_suffix notGt)

/-- While it has fuel the loop takes at least the first byte; the cases are the branches of `collectKey`
in the order they are written. -/
theorem collectKey_tail (fuel : Nat) (bs : Bytes) (e : Bool) (col : Bytes) (hf : fuel ≠ 0) :
    (collectKey fuel bs e col).2.bytes <:+ bs.tail := by
  fun_induction collectKey fuel bs e col with
  | case1 => exact absurd rfl hf
  | case2 | case5 | case6 => exact List.suffix_refl _
  | case3 _ _ _ _ _ _ _ _ h => exact parseByteAlias_suffix (Option.ite_none_right_eq_some.mp h).2
  | case4 _ _ _ _ rest _ _ _ _ _ _ _ h => simpa [h] using parseEscSeq_suffix rest
  | case7 fuel _ _ _ rest _ _ _ _ _ _ _ ih =>
    -- the next round may be out of fuel, and then returns `rest` as it is
    cases fuel with
    | zero => exact List.suffix_refl _
    | succ n => exact (ih (Nat.succ_ne_zero n)).trans rest.tail_suffix

/-- `read_key` always makes progress: a call consumes at least one byte, so `exec_loop` terminates. -/
theorem read_key_consumes (r : Reader) (h : r.bytes ≠ []) :
    (readKey r).2.bytes.length < r.bytes.length := by
  obtain ⟨_ | ⟨b, bs⟩, e⟩ := r
  · exact absurd rfl h
  · exact Nat.lt_succ_of_le (collectKey_tail 4 (b :: bs) e [] (by decide)).length_le

/-- Running a mode over key events: whatever the mode does, it only sees the keys. -/
def runKeys {σ : Type} (step : σ → KeyEvent → σ) (s : σ) (bs : Bytes) : σ :=
  (readAll bs).1.foldl step s

/-- **Behaviour follows keys**: spellings that read as the same keys give the same run of any step
function over `KeyEvent`s. -/
theorem behaviour_follows_keys {σ : Type} (step : σ → KeyEvent → σ) (s : σ) (a b : Bytes)
    (h : (readAll a).1 = (readAll b).1) : runKeys step s a = runKeys step s b := by
  simp [runKeys, h]

/-- An alias, an escaped `<`, an unknown name read literally, a two-byte character. -/
example : (readAll (bstr "d<esc>\\<x<no>" ++ [0xC3, 0xA9])).1
    = [⟨.char 'd', 0⟩, ⟨.esc, 0⟩, ⟨.char '\\', 0⟩, ⟨.char '<', 0⟩, ⟨.char 'x', 0⟩, ⟨.char '<', 0⟩,
       ⟨.char 'n', 0⟩, ⟨.char 'o', 0⟩, ⟨.char '>', 0⟩, ⟨.char 'é', 0⟩] := by decide +kernel
example : (readAll (bstr "<c-w>")).1 = (readAll [0x17]).1 := by decide +kernel
example : aliasKey (bstr "c-w") = some ⟨.char 'W', 8⟩ := by decide +kernel

end Vicut.C15
