/-
C04 — parallel execution never changes the result.
-/
import Vicut.Model.Parallel
import Vicut.Props.C03

namespace Vicut.C04
open Vicut

variable {ρ : Type}

/-- What a unit returns does not depend on the registers it finds on its thread. -/
def RegIndep (exec : ρ → Str → Records × ρ) : Prop := ∀ r r' u, (exec r u).1 = (exec r' u).1

theorem runWorker_indep (exec : ρ → Str → Records × ρ) (h : RegIndep exec) (r r0 : ρ) (us : List (Nat × Str)) :
    runWorker exec r us = us.map (fun p => (p.1, (exec r0 p.2).1)) := by
  fun_induction runWorker exec r us with
  | case1 => rfl
  | case2 r i u rest ih => rw [List.map_cons, ih, h r r0 u]

theorem runSer_indep (exec : ρ → Str → Records × ρ) (h : RegIndep exec) (r0 : ρ) (units : List Str) :
    runSer exec r0 units = (units.map fun u => (exec r0 u).1).flatten := by
  rw [runSer, runWorker_indep exec h r0 r0, C03.indexFrom_map (fun u => (exec r0 u).1), C03.indexFrom_map_snd]

/-- **Every schedule gives the serial result**: any assignment of units to workers (any number, any stealing),
any order of completion, any register-independent `execute`. -/
theorem par_eq_ser (exec : ρ → Str → Records × ρ) (h : RegIndep exec) (r0 : ρ) (units : List Str)
    (assign : List (List (Nat × Str))) (hassign : assign.flatten.Perm (indexFrom 0 units))
    (order : List (Nat × Records) → List (Nat × Records)) (horder : ∀ xs, (order xs).Perm xs) :
    runPar exec r0 assign order = runSer exec r0 units := by
  rw [runSer_indep exec h, runPar, collectSorted, C03.sorted_values_of_perm]
  -- what the workers deliver is a permutation of the indexed per-unit results
  refine (horder _).trans ?_
  rw [funext (runWorker_indep exec h r0 r0), ← List.map_flatten, ← C03.indexFrom_map fun u => (exec r0 u).1]
  exact hassign.map _

/-- `execute()` resets the registers first, whatever the editor core does with them. -/
theorem executeResetting_indep (core : ρ → Str → Records × ρ) (empty : ρ) :
    RegIndep (executeResetting core empty) := by
  intro r r' u; rfl

/-- **vicut's drivers**: for every schedule, thread count and editor core. -/
theorem par_eq_ser_vicut (core : ρ → Str → Records × ρ) (empty r0 : ρ) (units : List Str)
    (assign : List (List (Nat × Str))) (hassign : assign.flatten.Perm (indexFrom 0 units))
    (order : List (Nat × Records) → List (Nat × Records)) (horder : ∀ xs, (order xs).Perm xs) :
    runPar (executeResetting core empty) r0 assign order = runSer (executeResetting core empty) r0 units :=
  par_eq_ser _ (executeResetting_indep core empty) r0 units assign hassign order horder

/-- Each unit's records are those of the unit run alone. -/
theorem unit_alone (core : ρ → Str → Records × ρ) (empty r0 : ρ) (units : List Str) :
    runSer (executeResetting core empty) r0 units = (units.map (fun u => (core empty u).1)).flatten :=
  runSer_indep _ (executeResetting_indep core empty) r0 units

/-- Before the fix (`execute` used the registers it found) two schedules could disagree:
`-m P -m yiw` on two lines, one worker vs two. -/
theorem legacy_leak :
    let core : Option Str → Str → Records × Option Str :=
      fun r u => ([[(['1'], (r.getD []) ++ u)]], some u)      -- "put the register, then yank the line"
    let units : List Str := [['a'], ['b']]
    runPar core none [[(0, ['a']), (1, ['b'])]] id ≠ runPar core none [[(0, ['a'])], [(1, ['b'])]] id := by
  -- by unfolding: `mergeSort` is well-founded recursion and does not evaluate in the kernel
  simp [runPar, collectSorted, runWorker, keyLe, List.mergeSort, List.MergeSort.Internal.splitInTwo]

/-- `hassign` can be met -/
example : ([[(0, ['a'])], [(1, ['b'])]] : List (List (Nat × Str))).flatten.Perm (indexFrom 0 [['a'], ['b']]) :=
  .refl _

end Vicut.C04
