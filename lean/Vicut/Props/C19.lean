/-
C19 — a search lands on the next match and nowhere else, and its byte offset maps back to the grapheme.
`starts` (where the pattern matches, ascending) is arbitrary: the statements hold for any regex engine,
text and cursor.
-/
import Vicut.Model.Search

namespace Vicut.C19
open Vicut

/-- The specification: least start greater than the cursor, else (wrapping) the least start. -/
def nextStart (starts : List Nat) (cursor : Nat) : Option Nat :=
  match starts.filter (fun s => decide (s > cursor)) with
  | s :: _ => some s
  | [] => starts.head?

/-- Mirror: greatest start smaller than the cursor, else (wrapping) the greatest start. -/
def prevStart (starts : List Nat) (cursor : Nat) : Option Nat :=
  match (starts.filter (fun s => decide (s < cursor))).reverse with
  | s :: _ => some s
  | [] => starts.getLast?

theorem searchOrder_perm (starts : List Nat) (cursor : Nat) (fwd : Bool) :
    (searchOrder starts cursor fwd).1.Perm starts := by
  unfold searchOrder
  cases fwd
  · exact ((List.reverse_perm _).append (List.reverse_perm _)).trans (List.filter_append_perm _ _)
  · exact List.filter_append_perm _ _

theorem searchTarget_eq (starts : List Nat) (cursor : Nat) (fwd : Bool) (count : Nat) :
    searchTarget starts cursor fwd count
      = (searchOrder starts cursor fwd).1[(count - 1) % (searchOrder starts cursor fwd).1.length]? := by
  fun_cases searchTarget starts cursor fwd count with
  | case1 h => rw [List.isEmpty_iff.mp h]; rfl
  | case2 => rfl

theorem filter_not_of_filter_nil {α : Type} {p : α → Bool} {l : List α} (h : l.filter p = []) :
    l.filter (fun s => !p s) = l :=
  List.filter_eq_self.mpr fun a ha => by simpa using List.filter_eq_nil_iff.mp h a ha

/-- **`/P<CR>` (count 1)**: the first match that starts after the cursor, wrapping to the first match. -/
theorem search_fwd (starts : List Nat) (cursor : Nat) :
    searchTarget starts cursor true 1 = nextStart starts cursor := by
  rw [searchTarget_eq, nextStart]
  simp only [searchOrder, ↓reduceIte, Nat.sub_self, Nat.zero_mod]
  cases h : starts.filter (fun s => decide (s > cursor)) with
  | cons s rest => rfl
  | nil => rw [filter_not_of_filter_nil h, List.nil_append, List.head?_eq_getElem?]

/-- **`?P<CR>` (count 1)**: the nearest match that starts before the cursor, wrapping to the last. -/
theorem search_bwd (starts : List Nat) (cursor : Nat) :
    searchTarget starts cursor false 1 = prevStart starts cursor := by
  rw [searchTarget_eq, prevStart]
  simp only [searchOrder, Bool.false_eq_true, ↓reduceIte, Nat.sub_self, Nat.zero_mod]
  cases h : (starts.filter (fun s => decide (s < cursor))).reverse with
  | cons s rest => rfl
  | nil =>
    rw [filter_not_of_filter_nil (List.reverse_eq_nil_iff.mp h), List.nil_append,
      List.getLast?_eq_head?_reverse, List.head?_eq_getElem?]

/-- A search lands only where the pattern matches. -/
theorem search_lands_on_match (starts : List Nat) (cursor : Nat) (fwd : Bool) (count b : Nat)
    (h : searchTarget starts cursor fwd count = some b) : b ∈ starts :=
  (searchOrder_perm starts cursor fwd).subset (List.mem_of_getElem? (searchTarget_eq .. ▸ h))

/-- **No match: nothing moves.** -/
theorem search_no_match (gs : List Gr) (cursor : Nat) (st : SearchState) (cmd : SearchCmd) :
    (searchStep gs [] cursor st cmd).1 = cursor := by
  fun_cases searchStep gs [] cursor st cmd with
  | case1 => rfl
  | case2 _ _ b h | case3 _ _ b h => exact nomatch search_lands_on_match _ _ _ _ b h

/-- With matches present a search always finds one (it wraps). -/
theorem search_finds (starts : List Nat) (cursor : Nat) (fwd : Bool) (count : Nat) (hne : starts ≠ []) :
    ∃ b, searchTarget starts cursor fwd count = some b := by
  have hpos : 0 < (searchOrder starts cursor fwd).1.length :=
    (searchOrder_perm starts cursor fwd).length_eq ▸ List.length_pos_iff.mpr hne
  exact ⟨_, (searchTarget_eq ..).trans (List.getElem?_eq_getElem (Nat.mod_lt _ hpos))⟩

/-- **`n` follows the direction of the last search, `N` goes against it.** -/
theorem n_follows_direction (st : SearchState) (c : Nat) :
    (SearchCmd.next c).forward st = !st.lastRev ∧ (SearchCmd.prev c).forward st = st.lastRev := ⟨rfl, rfl⟩

theorem search_sets_direction (gs : List Gr) (starts : List Nat) (cursor : Nat) (st : SearchState) (f : Bool) (c : Nat) :
    (searchStep gs starts cursor st (.search f c)).2.lastRev = !f := by
  fun_cases searchStep gs starts cursor st (.search f c) <;> rfl

/-- After `?P`, `n` searches backwards and `N` forwards (the pre-fix code always went forwards for `n`). -/
theorem n_after_backward_search (gs : List Gr) (starts : List Nat) (cursor : Nat) (st : SearchState) (c k : Nat) :
    (SearchCmd.next k).forward (searchStep gs starts cursor st (.search false c)).2 = false ∧
    (SearchCmd.prev k).forward (searchStep gs starts cursor st (.search false c)).2 = true := by
  have := search_sets_direction gs starts cursor st false c
  simp [SearchCmd.forward, this]

/-- A count selects the count-th match in visiting order, modulo the number of matches. (`hne` is not used:
`searchTarget_eq`.) -/
theorem search_count (starts : List Nat) (cursor : Nat) (fwd : Bool) (count : Nat) (hne : starts ≠ []) :
    searchTarget starts cursor fwd count
      = (searchOrder starts cursor fwd).1[(count - 1) % (searchOrder starts cursor fwd).1.length]? :=
  searchTarget_eq starts cursor fwd count

/-! Offsets increase strictly, so a lookup finds an entry at its own position (closed form: `C09.offsetsFrom_getD`). -/

theorem offsetsFrom_lower (o : Nat) (gs : List Gr) : ∀ x ∈ offsetsFrom o gs, o ≤ x := by
  fun_induction offsetsFrom o gs with
  | case1 => nofun
  | case2 o g rest ih =>
    exact List.forall_mem_cons.mpr ⟨Nat.le_refl o, fun x hx => Nat.le_trans (Nat.le_add_right ..) (ih x hx)⟩

theorem utf8Size_sum_pos (g : Gr) (h : g ≠ []) : 0 < (g.map Char.utf8Size).sum := by
  cases g with
  | nil => exact absurd rfl h
  | cons c cs => exact Nat.lt_of_lt_of_le (Char.utf8Size_pos c) (Nat.le_add_right ..)

theorem offsetsFrom_increasing (o : Nat) (gs : List Gr) (hne : ∀ g ∈ gs, g ≠ []) :
    (offsetsFrom o gs).Pairwise (· < ·) := by
  fun_induction offsetsFrom o gs with
  | case1 => exact .nil
  | case2 o g rest ih =>
    rw [List.forall_mem_cons] at hne
    exact .cons (fun x hx => Nat.lt_of_lt_of_le (Nat.lt_add_of_pos_right (utf8Size_sum_pos g hne.1))
      (offsetsFrom_lower _ rest x hx)) (ih hne.2)

theorem offsetsFrom_length (o : Nat) (gs : List Gr) : (offsetsFrom o gs).length = gs.length := by
  fun_induction offsetsFrom o gs with
  | case1 => rfl
  | case2 o g rest ih => exact congrArg (· + 1) ih

/-- **The conversion is exact**: the byte offset of grapheme `i` is mapped back to `i`, when graphemes are
non-empty (the pre-fix code returned the offset itself). -/
theorem byte_to_grapheme_exact (gs : List Gr) (hne : ∀ g ∈ gs, g ≠ []) (i : Nat) (hi : i < gs.length) (o : Nat) :
    findIndexForBytePos (offsetsFrom o gs) ((offsetsFrom o gs).getD i 0) = some i := by
  have hi' : i < (offsetsFrom o gs).length := by rwa [offsetsFrom_length]
  have hidx : (offsetsFrom o gs).findIdx (· == (offsetsFrom o gs)[i]) = i :=
    List.Nodup.idxOf_getElem ((offsetsFrom_increasing o gs hne).imp Nat.ne_of_lt) i hi'
  rw [findIndexForBytePos, List.getD_eq_getElem?_getD, List.getElem?_eq_getElem hi', Option.getD_some,
    hidx, if_pos hi']

example : searchTarget [2, 8, 14] 8 true 1 = some 14 ∧ searchTarget [2, 8, 14] 14 true 1 = some 2 ∧
    searchTarget [2, 8, 14] 8 false 1 = some 2 ∧ searchTarget [2, 8, 14] 0 false 1 = some 14 ∧
    searchTarget [2, 8, 14] 0 true 5 = some 8 := by decide +kernel

end Vicut.C19
