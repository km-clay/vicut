/-
C12 — `-r N R` is exactly the unrolled command list.
Parser side: `-r N R` replaces the last N commands of the list it sits in (top level, `then` or
`else` list of the innermost open scope) by `Repeat{those commands, R+1}`; a closed `-g … --end`
is one command. Execution side: a `Repeat` runs like its body written out, at any nesting depth and
inside scopes — for every editor, through to what `execute()` returns.
-/
import Vicut.Lemmas.Args
import Vicut.Lemmas.Basics

namespace Vicut.C12
open Vicut

variable {σ : Type}

/-- `-r N R`, either spelling, any parser state: the last N commands of the list being filled become one `Repeat`. -/
theorem parseArgs_repeat {fileOk : Str → Bool} {N R : Str} {n r : Nat} {rest : List Str} {st : PState}
    (hN : parseUsize N = some n) (hR : parseUsize R = some r) : ∀ t ∈ [lit "-r", lit "--repeat"],
    parseArgs fileOk (t :: N :: R :: rest) st = parseArgs fileOk rest ((st.repeatLast n r).peekBreak rest) := by
  -- both texts in one `simp`, which runs the parser on literals (see `Lemmas/Args`)
  simp only [List.forall_mem_cons, List.not_mem_nil, false_imp_iff, implies_true, and_true]
  simp [parseArgs.eq_def fileOk (_ :: _), lit_inj, repeatOperands, hN, hR]

/-- At top level, `-r N R` turns the last N commands into `Repeat{…, R+1}` (all of them if there are
fewer than N) and parsing goes on with the remaining arguments. -/
theorem parse_repeat_top (fileOk : Str → Bool) (N R : Str) (n r : Nat) (rest : List Str) (o : POpts)
    (hN : parseUsize N = some n) (hR : parseUsize R = some r) :
    parseArgs fileOk (lit "-r" :: N :: R :: rest) { opts := o, stack := [] }
      = parseArgs fileOk rest { opts := { o with cmds := applyRepeat o.cmds n r }, stack := [] } :=
  parseArgs_repeat hN hR _ (.head _)

/-- The long spelling is the same arm. -/
theorem parse_repeat_top_long (fileOk : Str → Bool) (N R : Str) (n r : Nat) (rest : List Str) (o : POpts)
    (hN : parseUsize N = some n) (hR : parseUsize R = some r) :
    parseArgs fileOk (lit "--repeat" :: N :: R :: rest) { opts := o, stack := [] }
      = parseArgs fileOk rest { opts := { o with cmds := applyRepeat o.cmds n r }, stack := [] } :=
  parseArgs_repeat hN hR _ (.tail _ (.head _))

/-- Inside an open scope the same thing happens to the list being filled (`then`, or `else` after
`--else`), in the same order and with the same count `R+1`. -/
theorem parse_repeat_scope (fileOk : Str → Bool) (N R : Str) (n r : Nat) (rest : List Str)
    (o : POpts) (f : Frame) (fs : List Frame)
    (hN : parseUsize N = some n) (hR : parseUsize R = some r) :
    parseArgs fileOk (lit "-r" :: N :: R :: rest) { opts := o, stack := f :: fs }
      = parseArgs fileOk rest
          (({ opts := o, stack := f.setActive (applyRepeat f.active n r) :: fs } : PState).peekBreak rest) :=
  parseArgs_repeat hN hR _ (.head _)

/-- The body of the `Repeat` is the last N commands *in their original order*. -/
theorem applyRepeat_body (cs : List Cmd) (n r : Nat) (h : n ≤ cs.length) :
    ∃ pre body, cs = pre ++ body ∧ body.length = n ∧ applyRepeat cs n r = pre ++ [Cmd.rep body (r + 1)] :=
  ⟨cs.take (cs.length - n), cs.drop (cs.length - n), (List.take_append_drop _ cs).symm,
    List.length_drop.trans (Nat.sub_sub_self h), rfl⟩

/-- N larger than what is there takes everything. -/
theorem applyRepeat_clamps (cs : List Cmd) (n r : Nat) (h : cs.length ≤ n) :
    applyRepeat cs n r = [Cmd.rep cs (r + 1)] := by
  rw [applyRepeat, Nat.sub_eq_zero_of_le h]
  rfl

/-- `--end` makes the whole scope one command of the enclosing list: what a later `-r` counts. -/
theorem end_is_one_command (o : POpts) (f : Frame) :
    (({ opts := o, stack := [f] } : PState).closeOne).opts.cmds = o.cmds ++ [f.close] ∧
    (({ opts := o, stack := [f] } : PState).closeOne).stack = [] := by
  simp [PState.closeOne, PState.pushCmd]

variable (E : Ed σ) (keep : Bool)

theorem execSeq_append (a b : List Cmd) (st : σ × Ctx) :
    execSeq E keep (a ++ b) st = execSeq E keep b (execSeq E keep a st) := by
  induction a generalizing st with
  | nil => rfl
  | cons c cs ih => exact ih _

/-- `st` is as `set_normal_mode()` leaves it (or `--keep-mode` is on). -/
def Norm (st : σ × Ctx) : Prop := afterCmd E keep st = st

/-- `set_normal_mode` twice is `set_normal_mode` once. -/
def IdemNormal : Prop := ∀ s, E.setNormal (E.setNormal s) = E.setNormal s

variable {E keep}

theorem norm_afterCmd (hI : IdemNormal E) (st : σ × Ctx) : Norm E keep (afterCmd E keep st) := by
  unfold Norm afterCmd
  cases keep <;> simp [hI st.1]

theorem norm_execSeq (hI : IdemNormal E) (cs : List Cmd) (st : σ × Ctx) (h : Norm E keep st) :
    Norm E keep (execSeq E keep cs st) := by
  induction cs generalizing st with
  | nil => exact h
  | cons c cs ih => exact ih _ (norm_afterCmd hI _)

theorem replicate_ok (hI : IdemNormal E) {a body : List Cmd}
    (hab : ∀ st, Norm E keep st → execSeq E keep a st = execSeq E keep body st) (k : Nat) (st : σ × Ctx)
    (h : Norm E keep st) : execSeq E keep (List.replicate k a).flatten st = execSeq E keep [Cmd.rep body k] st := by
  induction k generalizing st with
  | zero => exact h.symm  -- `Repeat{_, 0}` is `afterCmd` alone
  | succ k ih =>
    rw [List.replicate_succ, List.flatten_cons, execSeq_append, hab st h]
    -- `Repeat{body, k+1}` is one round of `body`, then `Repeat{body, k}`
    exact ih _ (norm_execSeq hI body st h)

theorem r_is_unrolled (hI : IdemNormal E) (pre body post : List Cmd) (k : Nat) (st : σ × Ctx)
    (h : Norm E keep st) :
    execSeq E keep (pre ++ [Cmd.rep body k] ++ post) st
      = execSeq E keep (pre ++ (List.replicate k body).flatten ++ post) st := by
  simp only [execSeq_append]
  rw [replicate_ok hI (fun _ _ => rfl) k _ (norm_execSeq hI pre st h)]

/-- **`-r N R` is the unrolled list** (top level): with `body` the N preceding commands,
`pre ++ body ++ -r N R ++ post` runs exactly like `pre ++ body ++ body^R ++ post`. -/
theorem r_is_unrolled_flags (hI : IdemNormal E) (pre body post : List Cmd) (r : Nat) (st : σ × Ctx)
    (h : Norm E keep st) :
    execSeq E keep (pre ++ [Cmd.rep body (r + 1)] ++ post) st
      = execSeq E keep (pre ++ body ++ (List.replicate r body).flatten ++ post) st := by
  rw [r_is_unrolled hI pre body post (r + 1) st h]
  simp [List.replicate_succ, List.append_assoc]

mutual
def unroll : Cmd → List Cmd
  | .rep body k => (List.replicate k (unrollList body)).flatten
  | .glob p pol thn he els => [.glob p pol (unrollList thn) he (unrollList els)]
  | .next => [.next]
  | .move k => [.move k]
  | .cut n k => [.cut n k]
def unrollList : List Cmd → List Cmd
  | [] => []
  | c :: cs => unroll c ++ unrollList cs
end

/-- Moving the cursor to a line start does not leave Normal mode. -/
def GotoKeepsNormal (E : Ed σ) : Prop :=
  ∀ ln s e, E.gotoLine ln s = some e → E.setNormal s = s → E.setNormal e = e

theorem norm_goto (hG : GotoKeepsNormal E) {ln : Nat} {s : σ × Ctx} {e : σ}
    (hg : E.gotoLine ln s.1 = some e) (h : Norm E keep s) : Norm E keep (e, s.2) := by
  cases keep with
  | true => rfl
  | false =>
    have hs : E.setNormal s.1 = s.1 := congrArg Prod.fst h
    show (E.setNormal e, s.2) = (e, s.2)
    rw [hG ln s.1 e hg hs]

mutual
theorem unroll_ok (hI : IdemNormal E) (hG : GotoKeepsNormal E) :
    (c : Cmd) → (st : σ × Ctx) → Norm E keep st →
      execSeq E keep (unroll c) st = execSeq E keep [c] st
  | .next | .move _ | .cut _ _ => fun _ _ => rfl
  | .rep body k => replicate_ok hI (unrolled_everywhere hI hG body) k
  | .glob p pol thn he els => fun st h => by
    dsimp only [unroll, execSeq, execCmd]
    refine congrArg (afterCmd E keep) (ite_congr rfl (fun _ => ?_) (fun _ => ?_))
    · cases he with
      | false => rfl
      | true => exact unrolled_everywhere hI hG els st h
    · -- every line's `then` list starts from a Normal state, and leaves one
      refine List.foldl_congr_inv (I := Norm E keep) (fun s ln hs => ?_) _ h
      cases hg : E.gotoLine ln s.1 with
      | none => exact ⟨rfl, hs⟩
      | some e =>
        have he := norm_goto hG hg hs
        exact ⟨unrolled_everywhere hI hG thn _ he, norm_execSeq hI thn _ he⟩

/-- Writing out every `Repeat`, at any depth and inside any `-g`/`-v`/`--else` scope, does
not change what the command list does — for every editor whose `set_normal_mode` is idempotent and whose
line jump keeps Normal mode. -/
theorem unrolled_everywhere (hI : IdemNormal E) (hG : GotoKeepsNormal E) :
    (cs : List Cmd) → (st : σ × Ctx) → (h : Norm E keep st) →
      execSeq E keep (unrollList cs) st = execSeq E keep cs st
  | [] => fun _ _ => rfl
  | c :: cs => fun st h => by
    rw [unrollList, execSeq_append, unroll_ok hI hG c st h,
      unrolled_everywhere hI hG cs _ (norm_execSeq hI [c] st h)]
    rfl
end

mutual
def noRep : Cmd → Bool
  | .rep _ _ => false
  | .glob _ _ thn _ els => noRepList thn && noRepList els
  | _ => true
def noRepList : List Cmd → Bool
  | [] => true
  | c :: cs => noRep c && noRepList cs
end

/-! The list halves of the mutual predicates are `all` / `any` of the command halves: `++`, `flatten` and
`replicate` then go by core's lemmas. -/

theorem noRepList_eq (cs : List Cmd) : noRepList cs = cs.all noRep := by
  induction cs <;> simp [noRepList, *]

theorem extractsFieldL_eq (cs : List Cmd) : extractsFieldL cs = cs.any extractsField := by
  induction cs <;> simp [extractsFieldL, *]

theorem hasPatternSearch_eq (cs : List Cmd) : hasPatternSearch cs = cs.any hasPatternSearch1 := by
  induction cs <;> simp [hasPatternSearch, *]

mutual
theorem unroll_noRep : (c : Cmd) → noRepList (unroll c) = true
  | .next | .move _ | .cut _ _ => rfl
  | .rep body k => by
    have hb := unrollList_noRep body
    rw [noRepList_eq] at hb ⊢
    simp [unroll, hb]
  | .glob p pol thn he els => by
    simp [unroll, noRepList, noRep, unrollList_noRep thn, unrollList_noRep els]
/-- After unrolling no `Repeat` is left anywhere. -/
theorem unrollList_noRep : (cs : List Cmd) → noRepList (unrollList cs) = true
  | [] => rfl
  | c :: cs => by
    rw [unrollList, noRepList_eq, List.all_append, ← noRepList_eq, ← noRepList_eq, unroll_noRep c, unrollList_noRep cs]
    rfl
end

/-! The tail of `execute()` does not see the difference either, if every `Repeat` in the tree runs at least once
(always true for flags: the count is `R+1`). -/
mutual
def posCounts : Cmd → Bool
  | .rep body k => decide (0 < k) && posCountsL body
  | .glob _ _ thn _ els => posCountsL thn && posCountsL els
  | _ => true
def posCountsL : List Cmd → Bool
  | [] => true
  | c :: cs => posCounts c && posCountsL cs
end

mutual
theorem extractsField_unroll : (c : Cmd) → posCounts c = true → extractsFieldL (unroll c) = extractsField c
  | .next | .move _ | .cut _ _ | .glob _ _ _ _ _ => fun _ => rfl
  | .rep body k => fun h => by
    simp only [posCounts, Bool.and_eq_true, decide_eq_true_eq] at h
    rw [unroll, extractsFieldL_eq, List.any_flatten, List.any_replicate, if_neg (Nat.ne_of_gt h.1), ← extractsFieldL_eq]
    exact extractsFieldL_unroll body h.2
theorem extractsFieldL_unroll : (cs : List Cmd) → posCountsL cs = true →
    extractsFieldL (unrollList cs) = extractsFieldL cs
  | [] => fun _ => rfl
  | c :: cs => fun h => by
    simp only [posCountsL, Bool.and_eq_true] at h
    rw [unrollList, extractsFieldL_eq, List.any_append, ← extractsFieldL_eq, ← extractsFieldL_eq,
      extractsField_unroll c h.1, extractsFieldL_unroll cs h.2]
    rfl
end

mutual
theorem hasPatternSearch1_unroll : (c : Cmd) → posCounts c = true →
    hasPatternSearch (unroll c) = hasPatternSearch1 c
  | .next | .move _ | .cut _ _ => fun _ => rfl
  | .glob _ _ thn _ _ => fun h =>
    (Bool.or_false _).trans (extractsFieldL_unroll thn (Bool.and_eq_true_iff.mp h).1)
  | .rep body k => fun h => by
    simp only [posCounts, Bool.and_eq_true, decide_eq_true_eq] at h
    rw [unroll, hasPatternSearch_eq, List.any_flatten, List.any_replicate, if_neg (Nat.ne_of_gt h.1), ← hasPatternSearch_eq]
    exact hasPatternSearch_unroll body h.2
theorem hasPatternSearch_unroll : (cs : List Cmd) → posCountsL cs = true →
    hasPatternSearch (unrollList cs) = hasPatternSearch cs
  | [] => fun _ => rfl
  | c :: cs => fun h => by
    simp only [posCountsL, Bool.and_eq_true] at h
    rw [unrollList, hasPatternSearch_eq, List.any_append, ← hasPatternSearch_eq, ← hasPatternSearch_eq,
      hasPatternSearch1_unroll c h.1, hasPatternSearch_unroll cs h.2]
    rfl
end

/-- `execute()` — commands, whole-buffer fallback, trimming — returns the same records with
every `-r` written out. -/
theorem execute_unrolled (hI : IdemNormal E) (hG : GotoKeepsNormal E) (buf : σ → Str) (fl : Flags)
    (cs : List Cmd) (hp : posCountsL cs = true) (s0 : σ)
    (h : Norm E fl.keepMode (s0, ({} : Ctx))) :
    execute E buf fl (unrollList cs) s0 = execute E buf fl cs s0 := by
  unfold execute shouldPrintEntireBuffer
  rw [unrolled_everywhere hI hG cs _ h, hasPatternSearch_unroll cs hp]

example : parseUsize (lit "2") = some 2 ∧ parseUsize (lit "+7") = some 7 ∧ parseUsize (lit "x") = none := by decide +kernel
example : applyRepeat [.cut none ['e'], .move ['w']] 2 1 = [.rep [.cut none ['e'], .move ['w']] 2] := rfl
example : unrollList [.cut none ['e'], .rep [.move ['w'], .rep [.next] 2] 2]
    = [.cut none ['e'], .move ['w'], .next, .next, .move ['w'], .next, .next] := rfl

end Vicut.C12
