/-
C07 — undo restores the previous text, redo re-applies it.
`UOp.cmd ci after` is *any* command that leaves the buffer as `after`: the statements hold for every history.
-/
import Vicut.Model.Undo
import Vicut.Lemmas.Basics

namespace Vicut.C07
open Vicut

/-- Walking down a stack from the current text: the top entry's `new` is the current text, and below
an entry comes the stack for its `old`. (Both stacks have this shape.) -/
def Chain : Str → List UEdit → Prop
  | _, [] => True
  | t, e :: rest => e.new = t ∧ Chain e.old rest

/-- Where repeated undo ends. -/
def bottom : Str → List UEdit → Str
  | t, [] => t
  | _, e :: rest => bottom e.old rest

structure Inv (s : UState) : Prop where
  undo : Chain s.text s.undo
  redo : Chain s.text s.redo

def stackTexts (us : List UEdit) : List Str := us.flatMap (fun e => [e.old, e.new])

/-! `Chain`, `bottom` and `stackTexts` do not read `merging`. -/

@[simp] theorem chain_stopMerge (t : Str) (us : List UEdit) : Chain t (stopMergeTop us) ↔ Chain t us := by
  cases us <;> exact Iff.rfl

@[simp] theorem chain_startMerge (t : Str) (us : List UEdit) : Chain t (startMergeTop us) ↔ Chain t us := by
  cases us <;> exact Iff.rfl

@[simp] theorem bottom_stopMerge (t : Str) (us : List UEdit) : bottom t (stopMergeTop us) = bottom t us := by
  cases us <;> rfl

@[simp] theorem bottom_startMerge (t : Str) (us : List UEdit) : bottom t (startMergeTop us) = bottom t us := by
  cases us <;> rfl

@[simp] theorem stackTexts_stopMerge (us : List UEdit) : stackTexts (stopMergeTop us) = stackTexts us := by
  cases us <;> rfl

@[simp] theorem stackTexts_startMerge (us : List UEdit) : stackTexts (startMergeTop us) = stackTexts us := by
  cases us <;> rfl

@[simp] theorem stackTexts_cons (e : UEdit) (us : List UEdit) :
    stackTexts (e :: us) = e.old :: e.new :: stackTexts us := rfl

/-- `handle_edit` when `diff.is_empty()` is false -/
theorem handleEdit_of_ne {old new : Str} (hne : old ≠ new) :
    handleEdit [] old new = [{ old := old, new := new }] ∧
    ∀ e rest, handleEdit (e :: rest) old new =
      if e.merging then { e with new := new } :: rest else { old := old, new := new } :: e :: rest := by
  have hemp : (old.isEmpty && new.isEmpty) = false := by
    cases old <;> cases new <;> simp_all
  simp [handleEdit, hemp]

theorem handleEdit_spec {old new : Str} (hne : old ≠ new) (us : List UEdit) :
    (Chain old us → Chain new (handleEdit us old new) ∧ bottom new (handleEdit us old new) = bottom old us) ∧
    ∀ x ∈ stackTexts (handleEdit us old new), x = old ∨ x = new ∨ x ∈ stackTexts us := by
  cases us with
  | nil =>
    rw [(handleEdit_of_ne hne).1]
    exact ⟨fun _ => ⟨⟨rfl, trivial⟩, rfl⟩, by simp [stackTexts]⟩
  | cons e rest =>
    rw [(handleEdit_of_ne hne).2]
    split
    · refine ⟨fun h => ⟨⟨rfl, h.2⟩, rfl⟩, ?_⟩
      simp only [stackTexts_cons, List.mem_cons]
      rintro x (h | h | h)
      · exact .inr (.inr (.inl h))
      · exact .inr (.inl h)
      · exact .inr (.inr (.inr (.inr h)))
    · exact ⟨fun h => ⟨⟨rfl, h⟩, rfl⟩, by simp⟩

theorem cmdUndo_spec (ci : Bool) (us : List UEdit) (t after : Str) :
    (Chain t us → Chain after (cmdUndo ci us t after) ∧ bottom after (cmdUndo ci us t after) = bottom t us) ∧
    ∀ x ∈ stackTexts (cmdUndo ci us t after), x = t ∨ x = after ∨ x ∈ stackTexts us := by
  unfold cmdUndo
  by_cases heq : t = after
  · subst heq
    cases ci <;> simp +contextual
  · cases ci
    · simpa [heq] using handleEdit_spec heq (stopMergeTop us)
    · simpa [heq] using handleEdit_spec heq us

/-- **The invariant is preserved by every operation**, and the bottom of the undo chain never moves. -/
theorem inv_step (s : UState) (op : UOp) (h : Inv s) :
    Inv (ustep s op) ∧ bottom (ustep s op).text (ustep s op).undo = bottom s.text s.undo := by
  obtain ⟨t, us, rs⟩ := s
  have hu : Chain t us := h.undo
  have hr : Chain t rs := h.redo
  cases op with
  | cmd ci after =>
    have := (cmdUndo_spec ci us t after).1 hu
    exact ⟨⟨this.1, trivial⟩, this.2⟩
  | undo =>
    cases us with
    | nil => exact ⟨h, rfl⟩
    | cons e rest => exact ⟨⟨hu.2, rfl, hu.1 ▸ hr⟩, rfl⟩
  | redo =>
    cases rs with
    | nil => exact ⟨⟨(chain_stopMerge t us).2 hu, trivial⟩, bottom_stopMerge t us⟩
    | cons e rest =>
      obtain ⟨rfl, hr'⟩ := hr
      exact ⟨⟨⟨rfl, (chain_stopMerge _ us).2 hu⟩, hr'⟩, bottom_stopMerge _ us⟩

theorem inv_init (t : Str) : Inv { text := t } := ⟨trivial, trivial⟩

theorem inv_bottom_run (s : UState) (ops : List UOp) (h : Inv s) :
    Inv (urun s ops) ∧ bottom (urun s ops).text (urun s ops).undo = bottom s.text s.undo :=
  List.foldlRecOn (motive := fun b => Inv b ∧ bottom b.text b.undo = bottom s.text s.undo) ops ustep ⟨h, rfl⟩
    fun b hb op _ => ⟨(inv_step b op hb.1).1, (inv_step b op hb.1).2.trans hb.2⟩

theorem inv_run (s : UState) (ops : List UOp) (h : Inv s) : Inv (urun s ops) :=
  (inv_bottom_run s ops h).1

/-- **`u` restores the text before the most recent undoable change** (for an insert run, before the run). -/
theorem undo_restores (s : UState) (e : UEdit) (rest : List UEdit) (hs : s.undo = e :: rest) :
    (ustep s .undo).text = e.old := by
  simp [ustep, hs, stopMergeTop]

theorem cmdUndo_false_of_ne {t after : Str} (hne : t ≠ after) (us : List UEdit) :
    cmdUndo false us t after = { old := t, new := after } :: stopMergeTop us := by
  cases us <;> simp [cmdUndo, hne, handleEdit_of_ne hne, stopMergeTop]

/-- A change that is not merged into an insert run is undone exactly. (`hnm` is not used: a command that is
no character insert closes an open run first.) -/
theorem undo_is_previous (s : UState) (after : Str) (hne : s.text ≠ after)
    (hnm : ∀ e rest, s.undo = e :: rest → e.merging = false) :
    (ustep (ustep s (.cmd false after)) .undo).text = s.text :=
  undo_restores (ustep s (.cmd false after)) { old := s.text, new := after } _ (cmdUndo_false_of_ne hne s.undo)

theorem cmdUndo_true_merging (o nw : Str) (us : List UEdit) (t after : Str) :
    ∃ nw', cmdUndo true ({ old := o, new := nw, merging := true } :: us) t after
      = { old := o, new := nw', merging := true } :: us := by
  by_cases hne : t = after
  · exact ⟨nw, by simp [cmdUndo, hne, startMergeTop]⟩
  · exact ⟨after, by simp [cmdUndo, hne, handleEdit_of_ne hne, startMergeTop]⟩

theorem undo_insert_run_any (s : UState) (t1 : Str) (ts : List Str) (h1 : s.text ≠ t1)
    (hnm : ∀ e rest, s.undo = e :: rest → e.merging = false) :
    (ustep (ts.foldl (fun s t => ustep s (.cmd true t)) (ustep s (.cmd true t1))) .undo).text = s.text := by
  -- the first insert pushes an entry with `old = s.text` and opens the run; the others keep it on top
  have h0 : ∃ nw, (ustep s (.cmd true t1)).undo = { old := s.text, new := nw, merging := true } :: s.undo := by
    refine ⟨t1, ?_⟩
    cases hu : s.undo with
    | nil => simp [ustep, cmdUndo, hu, h1, handleEdit_of_ne h1, startMergeTop]
    | cons e rest => simp [ustep, cmdUndo, hu, h1, handleEdit_of_ne h1, startMergeTop, hnm e rest hu]
  obtain ⟨nw, h⟩ := List.foldlRecOn ts (fun s t => ustep s (.cmd true t))
    (motive := fun b => ∃ nw, b.undo = { old := s.text, new := nw, merging := true } :: s.undo) h0
    fun b ⟨nw, hb⟩ t _ => by simpa only [ustep, hb] using cmdUndo_true_merging s.text nw s.undo b.text t
  exact undo_restores _ _ _ h

/-- The same for a change typed as an insert run: all typed characters go at once. (`h2` is not used.) -/
theorem undo_insert_run (s : UState) (t1 t2 : Str) (h1 : s.text ≠ t1) (h2 : t1 ≠ t2)
    (hnm : ∀ e rest, s.undo = e :: rest → e.merging = false) :
    (ustep (ustep (ustep s (.cmd true t1)) (.cmd true t2)) .undo).text = s.text :=
  undo_insert_run_any s t1 [t2] h1 hnm

/-- **`<c-r>` after `u` returns exactly the text that `u` replaced.** -/
theorem redo_after_undo (s : UState) (hne : s.undo ≠ []) (h : Inv s) :
    (ustep (ustep s .undo) .redo).text = s.text := by
  obtain ⟨t, us, rs⟩ := s
  cases us with
  | nil => exact absurd rfl hne
  | cons e rest => exact h.undo.1

def undoN : Nat → UState → UState
  | 0, s => s
  | n + 1, s => undoN n (ustep s .undo)

theorem undoN_all (t : Str) (us rs : List UEdit) :
    (undoN us.length { text := t, undo := us, redo := rs }).text = bottom t us := by
  induction us generalizing t rs with
  | nil => rfl
  | cons e rest ih => exact ih e.old _

/-- **Enough `u`s return the original input**, after any history. -/
theorem undos_reach_original (t : Str) (ops : List UOp) :
    (undoN (urun { text := t } ops).undo.length (urun { text := t } ops)).text = t :=
  (undoN_all _ _ _).trans (inv_bottom_run _ ops (inv_init t)).2

/-- The `seen` meant in `texts_are_earlier_states`: the input and the buffer after every command. No theorem
uses it. -/
def textsSeen (t : Str) : List UOp → List Str
  | [] => [t]
  | .cmd _ after :: ops => t :: textsSeen after ops
  | _ :: ops => textsSeen t ops

/-- An entry moved, flipped, to the other stack adds no text. -/
theorem seen_move {seen : List Str} {e : UEdit} {rest to : List UEdit}
    (hf : ∀ x ∈ stackTexts (e :: rest), x ∈ seen) (ht : ∀ x ∈ stackTexts to, x ∈ seen) :
    e.old ∈ seen ∧ (∀ x ∈ stackTexts rest, x ∈ seen) ∧
    ∀ x ∈ stackTexts ({ old := e.new, new := e.old } :: to), x ∈ seen := by
  simp only [stackTexts_cons, List.mem_cons, forall_eq_or_imp] at hf ⊢
  exact ⟨hf.1, hf.2.2, hf.2.1, hf.1, ht⟩

/-- Undo and redo never invent a text: a step stays inside any `seen` that holds the text, the stack texts
and the command's result. -/
theorem texts_are_earlier_states (seen : List Str) (s : UState) (op : UOp)
    (ht : s.text ∈ seen) (hu : ∀ x ∈ stackTexts s.undo, x ∈ seen) (hr : ∀ x ∈ stackTexts s.redo, x ∈ seen)
    (hop : ∀ ci after, op = .cmd ci after → after ∈ seen) :
    (ustep s op).text ∈ seen ∧ (∀ x ∈ stackTexts (ustep s op).undo, x ∈ seen) ∧
    (∀ x ∈ stackTexts (ustep s op).redo, x ∈ seen) := by
  obtain ⟨t, us, rs⟩ := s
  cases op with
  | cmd ci after =>
    have ha := hop ci after rfl
    refine ⟨ha, fun x hx => ?_, by simp [ustep, stackTexts]⟩
    rcases (cmdUndo_spec ci us t after).2 x hx with rfl | rfl | hx
    · exact ht
    · exact ha
    · exact hu x hx
  | undo =>
    cases us with
    | nil => exact ⟨ht, hu, hr⟩
    | cons e rest => exact seen_move hu hr
  | redo =>
    have hu' : ∀ x ∈ stackTexts (stopMergeTop us), x ∈ seen := by simpa using hu
    cases rs with
    | nil => exact ⟨ht, hu', hr⟩
    | cons e rest =>
      have := seen_move hr hu'
      exact ⟨this.1, this.2.2, this.2.1⟩

/-- Undo and redo have no failing transition: `ustep` is a function (fix 307c7cf: a snapshot is restored, no byte
range spliced). -/
theorem undo_total (s : UState) (op : UOp) : ∃ s', ustep s op = s' := ⟨_, rfl⟩

/-- Before the fix: `buffer.replace_range(pos..pos+new.len(), old)` on whole-buffer snapshots needs `pos = 0`;
any edit not at byte 0 panicked. -/
theorem legacy_undo_out_of_range (pos newLen : Nat) (hpos : 0 < pos) : ¬ (pos + newLen ≤ newLen) := by
  omega

example : (urun { text := "ab".toList } [.cmd false "b".toList, .cmd true "xb".toList, .cmd true "xyb".toList, .undo]).text
    = "b".toList := by decide +kernel
example : Inv (urun { text := "ab".toList } [.cmd false "b".toList, .undo, .redo]) :=
  inv_run _ _ (inv_init _)

end Vicut.C07
