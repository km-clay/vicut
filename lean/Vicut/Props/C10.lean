/-
C10 — no input makes vicut crash or hang.
For the modelled parts "cannot crash" is a theorem about the model's explicit failure values and "cannot hang"
is the kernel's acceptance of the definitions (no `partial`). The unmodelled parts are covered by the crash
census of the run.
-/
import Vicut.Props.C01
import Vicut.Model.Verbs
import Vicut.Props.C09
import Vicut.Model.Args
import Vicut.Model.Reader

namespace Vicut.C10
open Vicut

theorem read_field_never_panics (gs : List Gr) (c0 c1 : Nat) (m : Option SelMode) (r : Option SelRange) :
    fieldOf gs c0 c1 m r ≠ .error .panic := C01.field_never_panics gs c0 c1 m r

theorem drain_never_panics (gs : List Gr) (s e : Nat) : ∃ r, drainGs gs s e = .ok r := ⟨_, rfl⟩

theorem drainWindows_total (ws : List (Nat × Nat)) (g : List Gr) : ∃ r, drainWindows ws g = .ok r := by
  induction ws generalizing g with
  | nil => exact ⟨_, rfl⟩
  | cons w ws ih =>
    obtain ⟨r1, h1⟩ := drain_never_panics g w.1 w.2
    obtain ⟨r2, h2⟩ := ih r1.2
    simp only [drainWindows, h1, h2]
    exact ⟨_, rfl⟩

/-- Every branch is `Ok` outright or a `drain` (`.ok` by definition): only the block windows need an argument. -/
theorem getRegisterContent_total (d : OpK) (lb : LB) (mk : MK) : ∃ r, getRegisterContent d lb mk = .ok r := by
  unfold getRegisterContent
  split
  · split
    · obtain ⟨r, hr⟩ := drainWindows_total _ lb.gs
      exact ⟨_, by rw [hr]; rfl⟩
    · exact ⟨_, rfl⟩
  · split
    · exact ⟨_, rfl⟩
    · split <;> exact ⟨_, rfl⟩
  · split
    · split <;> exact ⟨_, rfl⟩
    · exact ⟨_, rfl⟩
  · split
    · exact ⟨_, rfl⟩
    · split <;> exact ⟨_, rfl⟩

/-- Delete, change and yank never panic, for every MotionKind (in range or not), register name and bank. -/
theorem delete_change_yank_never_panic (lb : LB) (mk : MK) (reg : RegName) (regs : Regs) :
    (∃ o, execVerbText .delete mk reg lb regs = .ok o) ∧ (∃ o, execVerbText .change mk reg lb regs = .ok o) ∧
    (∃ o, execVerbText .yank mk reg lb regs = .ok o) := by
  obtain ⟨r1, h1⟩ := getRegisterContent_total .delete lb mk
  obtain ⟨r2, h2⟩ := getRegisterContent_total .change lb mk
  obtain ⟨r3, h3⟩ := getRegisterContent_total .yank lb mk
  simp only [execVerbText, h1, h2, h3]
  cases mk.isNull <;> exact ⟨⟨_, rfl⟩, ⟨_, rfl⟩, ⟨_, rfl⟩⟩

/-- `line_bounds` of the number of terminators before a position in the text is `Some`: under `C09.NlAlone`,
where that number is `cursor_line_number()`, the `unwrap` in `this_line()` cannot fail. -/
theorem this_line_unwrap_is_safe (gs : List Gr) (cur : Nat) (hc : cur ≤ gs.length) :
    ∃ b, lineBounds gs (countNl (gs.take cur)) = some b := by
  obtain ⟨s, e, h, _⟩ := C09.this_line_contains_cursor gs cur hc
  exact ⟨_, h⟩

/-- The argument parser and the key reader are total (accepted by the kernel without `partial`); stated so that
the audit lists them. -/
theorem parse_args_total (fileOk : Str → Bool) (argv : List Str) (st : PState) : ∃ r, parseArgs fileOk argv st = r := ⟨_, rfl⟩
theorem reader_total (bytes : Bytes) (escaped : Bool) : ∃ r, readAll bytes escaped = r := ⟨_, rfl⟩

end Vicut.C10
