/-
C03 — `--linewise` equals running every line alone, in input order.
Everything here is parametric in `exec` (what `execute()` returns for one unit): the statements
hold for every command list, option set and editor.
-/
import Vicut.Model.Linewise
import Vicut.Props.C14
import Vicut.Lemmas.Basics

namespace Vicut.C03
open Vicut

/-- The invariant of the `get_lines` loop. -/
theorem getLinesAux_spec (s cur : Str) (hcur : '\n' ∉ cur) :
    (getLinesAux s cur).flatten = cur ++ s ∧
    (∀ l ∈ getLinesAux s cur, l ≠ [] ∧ '\n' ∉ l.dropLast) ∧
    ∀ l ∈ (getLinesAux s cur).dropLast, l.getLast? = some '\n' := by
  fun_induction getLinesAux s cur with
  | case1 cur h => simpa using h
  | case2 cur h => simpa using ⟨fun e => h (e ▸ rfl), fun h => hcur (List.dropLast_subset _ h)⟩
  | case3 cs cur ih =>
    obtain ⟨hf, hp, ht⟩ := ih List.not_mem_nil
    refine ⟨by simp [hf], List.forall_mem_cons.mpr ⟨⟨by simp, by simpa using hcur⟩, hp⟩, fun l hl => ?_⟩
    by_cases hrest : getLinesAux cs [] = []
    · rw [hrest] at hl
      cases hl
    · rw [List.dropLast_cons_of_ne_nil hrest] at hl
      exact (List.mem_cons.mp hl).elim (fun e => e ▸ by simp) (ht l)
  | case4 c cs cur hc ih =>
    rw [List.append_cons cur c cs]
    exact ih (by simp [hcur, Ne.symm hc])

/-- Concatenating the pieces gives back the input: no line dropped, duplicated, merged or reordered. -/
theorem getLines_flatten (s : Str) : (getLines s).flatten = s :=
  (getLinesAux_spec s [] List.not_mem_nil).1

theorem getLines_ne_nil (s : Str) : ∀ l ∈ getLines s, l ≠ [] :=
  fun l hl => ((getLinesAux_spec s [] List.not_mem_nil).2.1 l hl).1

/-- A newline can only be the last character of a piece. -/
theorem getLines_newline_last (s : Str) : ∀ l ∈ getLines s, '\n' ∉ l.dropLast :=
  fun l hl => ((getLinesAux_spec s [] List.not_mem_nil).2.1 l hl).2

/-- Every piece except possibly the last one ends with its terminator. -/
theorem getLines_terminated (s : Str) : ∀ l ∈ (getLines s).dropLast, l.getLast? = some '\n' :=
  (getLinesAux_spec s [] List.not_mem_nil).2.2

theorem indexFrom_eq_zip {α : Type} (i : Nat) (xs : List α) :
    indexFrom i xs = (List.range' i xs.length).zip xs := by
  induction xs generalizing i with
  | nil => rfl
  | cons x xs ih => simp [indexFrom, ih, List.range'_succ]

theorem indexFrom_map_snd {α : Type} (i : Nat) (xs : List α) : (indexFrom i xs).map (·.2) = xs := by
  rw [indexFrom_eq_zip]
  exact List.map_snd_zip (by simp)

theorem indexFrom_map {α β : Type} (f : α → β) (i : Nat) (xs : List α) :
    (indexFrom i xs).map (fun p => (p.1, f p.2)) = indexFrom i (xs.map f) := by
  simp only [indexFrom_eq_zip, List.zip_map_right, List.length_map]
  rfl

theorem indexFrom_keys_lt {α : Type} (i : Nat) (xs : List α) :
    (indexFrom i xs).Pairwise (fun a b => a.1 < b.1) := by
  have h : (indexFrom i xs).map (·.1) = List.range' i xs.length := by
    rw [indexFrom_eq_zip]
    exact List.map_fst_zip (by simp)
  exact List.pairwise_map.mp (h ▸ List.pairwise_lt_range')

theorem keyLe_iff {α : Type} {a b : Nat × α} : keyLe a b = true ↔ a.1 ≤ b.1 := by simp [keyLe]

theorem mergeSort_of_perm_keys_lt {α : Type} {l ys : List (Nat × α)}
    (hl : l.Pairwise (fun a b => a.1 < b.1)) (hp : ys.Perm l) : ys.mergeSort keyLe = l := by
  have hs : (ys.mergeSort keyLe).Pairwise (fun a b => keyLe a b = true) :=
    List.pairwise_mergeSort (le := keyLe) (fun a b c hab hbc => keyLe_iff.2 (Nat.le_trans (keyLe_iff.1 hab) (keyLe_iff.1 hbc)))
      (fun a b => by rw [Bool.or_eq_true, keyLe_iff, keyLe_iff]; exact Nat.le_total a.1 b.1) ys
  have hle : l.Pairwise (fun a b => keyLe a b = true) := hl.imp fun h => keyLe_iff.2 (Nat.le_of_lt h)
  have hperm := (List.mergeSort_perm ys keyLe).trans hp
  -- equal keys mean equal entries, since the keys of `l` are distinct
  have hinj : ∀ ⦃a⦄, a ∈ l → ∀ ⦃b⦄, b ∈ l → a.1 = b.1 → a = b :=
    List.Pairwise.forall_of_forall_of_flip (fun _ _ _ => rfl)
      (hl.imp fun h e => absurd e (Nat.ne_of_lt h)) (hl.imp fun h e => absurd e (Nat.ne_of_gt h))
  exact List.Perm.eq_of_pairwise
    (fun a b ha hb hab hba => hinj (hperm.subset ha) hb (Nat.le_antisymm (keyLe_iff.1 hab) (keyLe_iff.1 hba)))
    hs hle hperm

theorem sorted_values_of_perm {α : Type} {xs : List α} {ys : List (Nat × α)}
    (hp : ys.Perm (indexFrom 0 xs)) : (ys.mergeSort keyLe).map (·.2) = xs := by
  rw [mergeSort_of_perm_keys_lt (indexFrom_keys_lt 0 xs) hp, indexFrom_map_snd]

/-- **Order independence.** Whatever order the workers finish in, `--linewise` on stdin collects
exactly the records of line 1, then line 2, … — for any `execute`. -/
theorem linewise_records_any_order (exec : Str → Records)
    (sched : List (Nat × Records) → List (Nat × Records)) (hs : ∀ xs, (sched xs).Perm xs) (s : Str) :
    executeLinewise exec sched s = ((getLines s).map exec).flatten := by
  unfold executeLinewise collectSorted
  rw [sorted_values_of_perm (hs _)]

/-- The same for the new content of a file processed linewise. -/
theorem linewise_file_any_order (exec : Str → Records) (fmt : Records → Str)
    (sched : List (Nat × Str) → List (Nat × Str)) (hs : ∀ xs, (sched xs).Perm xs) (content : Str) :
    linewiseFileContent exec fmt sched content = ((getLines content).map (fun l => fmt (exec l))).flatten := by
  unfold linewiseFileContent
  rw [sorted_values_of_perm (hs _)]

/-- Away from the whole-buffer sentinel the plain/delimiter renderer works record by record. -/
theorem fmtStandard_append (d : Str) (a b : Records)
    (ha : noFieldsExtracted a = false) (hb : noFieldsExtracted b = false)
    (hab : noFieldsExtracted (a ++ b) = false) :
    fmtStandard d (a ++ b) = fmtStandard d a ++ fmtStandard d b := by
  rw [C14.standard_is_join d _ hab, C14.standard_is_join d a ha, C14.standard_is_join d b hb, List.map_append,
    List.flatten_append]

/-- The template renderer works record by record as well. -/
theorem fmtTemplate_append (tpl : Str) (a b : Records) (ra rb : Str)
    (ha : fmtTemplate tpl a = .ok ra) (hb : fmtTemplate tpl b = .ok rb) :
    fmtTemplate tpl (a ++ b) = .ok (ra ++ rb) := by
  fun_induction fmtTemplate tpl a generalizing ra with
  | case1 =>
    cases ha
    exact hb
  | case2 | case3 => cases ha
  | case4 r rs l hl rest hr ih =>
    cases ha
    rw [List.cons_append, fmtTemplate, hl]
    simp only [ih rest hr, List.append_assoc]

/-- The records a whole-buffer edit returns for one line: the sentinel. -/
def sentinelRec (b : Str) : Records := [[(['0'], b)]]

/-- **Plain stdout, whole-buffer edits (no `-c`).** For two or more lines: every line's edited text with a
newline ensured, plus the one framing newline `writeln!` adds per process. -/
theorem linewise_stdout_edits (d : Str) (edit : Str → Str) (input : Str)
    (h2 : 2 ≤ (getLines input).length) :
    stdoutLinewise (fun l => sentinelRec (edit l)) (fmtStandard d) input
      = ((getLines input).map (fun l => ensureNl (edit l))).flatten ++ ['\n'] := by
  unfold stdoutLinewise
  -- two sentinels side by side are not the sentinel any more: they render record by record
  have hns : noFieldsExtracted (((getLines input).map (fun l => sentinelRec (edit l))).flatten) = false := by
    generalize getLines input = ls at h2
    match ls, h2 with
    | a :: b :: rest, _ => simp [sentinelRec, noFieldsExtracted]
  rw [C14.standard_is_join d _ hns, List.flatten_map_flatten, List.map_map]
  simp [sentinelRec, joinWith, Function.comp_def]

/-- With exactly one line, `--linewise` prints what the plain run prints. -/
theorem linewise_stdout_one (exec : Str → Records) (fmt : Records → Str) (input l : Str)
    (h : getLines input = [l]) :
    stdoutLinewise exec fmt input = stdoutSingle exec fmt l := by
  simp [stdoutLinewise, stdoutSingle, h]

/-- **Plain stdout, field extraction.** With ordinary records on every line (no sentinel): the per-line
outputs concatenated, the per-process framing newline moved to the end. -/
theorem linewise_stdout_fields (d : Str) (exec : Str → Records) (input : Str)
    (hl : ∀ l ∈ getLines input, noFieldsExtracted (exec l) = false)
    (hall : noFieldsExtracted (((getLines input).map exec).flatten) = false) :
    stdoutLinewise exec (fmtStandard d) input
      = ((getLines input).map (fun l => fmtStandard d (exec l))).flatten ++ ['\n'] := by
  unfold stdoutLinewise
  rw [C14.standard_is_join d _ hall, List.flatten_map_flatten, List.map_map,
    List.map_congr_left fun l h => C14.standard_is_join d _ (hl l h)]
  rfl

example : getLines "a\n\nbé".toList = ["a\n".toList, "\n".toList, "bé".toList] := by decide +kernel
/-- the hypothesis of `linewise_stdout_edits` can be met -/
example : 2 ≤ (getLines "a\nb\n".toList).length := by decide +kernel
example : executeLinewise (fun l => [[(['1'], l)]]) List.reverse "x\ny\n".toList
    = [[(['1'], "x\n".toList)], [(['1'], "y\n".toList)]] := by
  rw [linewise_records_any_order _ _ (fun xs => List.reverse_perm xs)]; decide +kernel

end Vicut.C03
