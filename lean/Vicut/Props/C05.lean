/-
C05 — `-i` writes back exactly the edited buffer.
-/
import Vicut.Model.Files
import Vicut.Model.Exec
import Vicut.Props.C06

namespace Vicut.C05
open Vicut

variable {σ : Type}

/-- The records are the same with and without `-i` / file arguments: the write-back gets what the twin
invocation prints. -/
theorem execute_ignores_inplace (E : Ed σ) (buf : σ → Str) (fl : Flags) (cmds : List Cmd) (s0 : σ) (b c : Bool) :
    execute E buf { fl with editInplace := b, hasFiles := c } cmds s0 = execute E buf fl cmds s0 := by
  rfl

theorem _root_.Vicut.FS.get_cons (r : Path) (d : Str) (fs : FS) (q : Path) :
    FS.get ((r, d) :: fs) q = if r = q then some d else fs.get q := by
  by_cases h : r = q <;> simp [FS.get, h]

theorem _root_.Vicut.FS.get_set (fs : FS) (p q : Path) (c : Str) :
    (fs.set p c).get q = if p = q then some c else fs.get q := by
  induction fs with
  | nil => simp [FS.set, FS.get]
  | cons e rest ih =>
    obtain ⟨r, d⟩ := e
    by_cases hr : r = p
    · subst hr; by_cases hq : r = q <;> simp [FS.set, FS.get_cons, hq]
    · by_cases hq : r = q
      · subst hq; simp [FS.set, FS.get_cons, hr, Ne.symm hr]
      · simp [FS.set, FS.get_cons, hr, hq, ih]

/-- The two paths writing back `p` can touch: `p` itself and, with `--backup`, its sibling. -/
def touches (backup : Option Str) (p q : Path) : Prop :=
  p = q ∨ ∃ bak, backup = some bak ∧ backupPath bak p = q

theorem writeBack_cons (backup : Option Str) (fs : FS) (x : Path × Str) (rest : List (Path × Str)) :
    writeBack backup fs (x :: rest) = writeBack backup (writeBack backup fs [x]) rest := rfl

theorem writeBack_frame {backup : Option Str} (outs : List (Path × Str)) {fs : FS} {q : Path}
    (h : ∀ e ∈ outs, ¬ touches backup e.1 q) : (writeBack backup fs outs).get q = fs.get q := by
  induction outs generalizing fs with
  | nil => rfl
  | cons e rest ih =>
    obtain ⟨hp, hrest⟩ := List.forall_mem_cons.mp h
    obtain ⟨p, out⟩ := e
    unfold writeBack
    rw [ih hrest, FS.get_set, if_neg fun hpq => hp (.inl hpq)]
    split
    · exact (FS.get_set ..).trans (if_neg fun hbq => hp (.inr ⟨_, rfl, hbq⟩))
    · rfl

/-- Named files are distinct and no backup path collides with a named file or another backup. -/
structure Separate (backup : Option Str) (paths : List Path) : Prop where
  nodup : paths.Nodup
  noClash : ∀ bak, backup = some bak → ∀ p ∈ paths, ∀ q ∈ paths, backupPath bak p ≠ q
  bakInj : ∀ bak, backup = some bak → ∀ p ∈ paths, ∀ q ∈ paths, backupPath bak p = backupPath bak q → p = q

def Apart (backup : Option Str) (p q : Path) : Prop := ∀ x, touches backup p x → ¬ touches backup q x

theorem Separate.pairwise {backup : Option Str} {paths : List Path} (hs : Separate backup paths) :
    paths.Pairwise (Apart backup) := by
  refine hs.nodup.imp_of_mem fun {p q} hp hq hne x h1 h2 => ?_
  rcases h1 with rfl | ⟨bak, hb, rfl⟩ <;> rcases h2 with h2 | ⟨bak', hb', h2⟩
  · exact hne h2.symm
  · exact hs.noClash bak' hb' q hq p hp h2
  · exact hs.noClash bak hb p hp q hq h2.symm
  · cases hb.symm.trans hb'
    exact hne (hs.bakInj bak hb p hp q hq h2.symm)

theorem writeBack_file {backup : Option Str} {outs : List (Path × Str)} (fs : FS)
    (hd : (outs.map Prod.fst).Pairwise (Apart backup)) : ∀ e ∈ outs, (writeBack backup fs outs).get e.1 = some e.2 := by
  induction outs generalizing fs with
  | nil => nofun
  | cons x rest ih =>
    intro e he
    rw [writeBack_cons]
    rcases List.mem_cons.mp he with rfl | he
    · rw [writeBack_frame rest fun a ha => List.rel_of_pairwise_cons hd (List.mem_map_of_mem ha) _ (.inl rfl)]
      simp only [writeBack, FS.get_set, ↓reduceIte]
    · exact ih _ hd.of_cons e he

/-- **`--backup` keeps the original bytes** in the sibling `backupPath`. -/
theorem backup_holds_original (bak : Str) (outs : List (Path × Str)) (fs : FS)
    (hs : Separate (some bak) (outs.map Prod.fst)) :
    ∀ e ∈ outs, ∀ orig, fs.get e.1 = some orig →
      (writeBack (some bak) fs outs).get (backupPath bak e.1) = some orig := by
  intro e he orig horig
  have hm : e.1 ∈ outs.map Prod.fst := List.mem_map_of_mem he
  have hne : e.1 ≠ backupPath bak e.1 := fun h => hs.noClash bak rfl e.1 hm e.1 hm h.symm
  have hd := hs.pairwise
  clear hs hm
  induction outs generalizing fs with
  | nil => cases he
  | cons x rest ih =>
    rw [writeBack_cons]
    rcases List.mem_cons.mp he with rfl | he
    · rw [writeBack_frame rest fun a ha => List.rel_of_pairwise_cons hd (List.mem_map_of_mem ha) _ (.inr ⟨bak, rfl, rfl⟩)]
      simp only [writeBack, horig, FS.get_set, if_neg hne, ↓reduceIte]
    · have hx : ∀ a ∈ [x], ¬ touches (some bak) a.1 e.1 := fun a ha h =>
        List.rel_of_pairwise_cons hd (List.mem_map_of_mem he) e.1 (List.mem_singleton.mp ha ▸ h) (.inl rfl)
      exact ih _ he ((writeBack_frame [x] hx).trans horig) hd.of_cons

/-- **No other file is created or modified**: a path whose content differs after the run is a named
file or (with `--backup`) the backup sibling of one. -/
theorem touches_only (proc : Process) (backup : Option Str) (files : List Path) (fs : FS) (q : Path)
    (h : (runInplace proc backup files fs).fs.get q ≠ fs.get q) :
    q ∈ files ∨ ∃ bak, backup = some bak ∧ ∃ p ∈ files, backupPath bak p = q := by
  revert h
  fun_cases runInplace proc backup files fs with
  | case1 => exact fun h => absurd rfl h
  | case2 outs hp =>
    intro h
    obtain ⟨e, he, ht⟩ : ∃ e ∈ outs, touches backup e.1 q :=
      Classical.byContradiction fun hn => h (writeBack_frame outs fun e he ht => hn ⟨e, he, ht⟩)
    have hf : e.1 ∈ files := (C06.processAll_some hp).1 ▸ List.mem_map_of_mem he
    rcases ht with rfl | ⟨bak, hb, hq⟩
    · exact .inl hf
    · exact .inr ⟨bak, hb, e.1, hf, hq⟩

/-- **Write-back = what the twin prints** (`proc` = execute + render of the same invocation without `-i`). -/
theorem inplace_eq_printed (proc : Process) (backup : Option Str) (files : List Path) (fs : FS)
    (hs : Separate backup files) (hok : (runInplace proc backup files fs).exit = 0) :
    ∀ p ∈ files, ∃ c, fs.get p = some c ∧ (runInplace proc backup files fs).fs.get p = proc p c := by
  revert hok
  fun_cases runInplace proc backup files fs with
  | case1 => exact nofun
  | case2 outs hp =>
    obtain ⟨rfl, hout⟩ := C06.processAll_some hp
    intro _ p hpf
    obtain ⟨e, he, rfl⟩ := List.mem_map.mp hpf
    obtain ⟨c, hg, hc⟩ := hout e he
    exact ⟨c, hg, (writeBack_file fs hs.pairwise e he).trans hc.symm⟩

/-- **Cursor-only commands leave every file byte-identical**: if processing a file renders its own
content, as a motion-only command list does, the file is unchanged. (Neither hypothesis on `fs.get` is
used: a run that fails changes nothing.) -/
theorem passive_identity (proc : Process) (backup : Option Str) (files : List Path) (fs : FS)
    (hs : Separate backup files) (hid : ∀ p c, proc p c = some c) :
    ∀ p ∈ files, (∃ c, fs.get p = some c) → (∀ q ∈ files, ∃ c, fs.get q = some c) →
      (runInplace proc backup files fs).fs.get p = fs.get p := by
  intro p hp _ _
  by_cases hexit : (runInplace proc backup files fs).exit = 0
  · obtain ⟨c, hg, hr⟩ := inplace_eq_printed proc backup files fs hs hexit p hp
    rw [hr, hid, hg]
  · rw [C06.all_or_nothing proc backup files fs hexit]

/-! ## Backup path = `Path::with_extension` on the file name -/

example : backupPath "bak".toList "a.txt".toList = "a.txt.bak".toList := by decide +kernel
example : backupPath "bak".toList "b".toList = "b..bak".toList := by decide +kernel
example : backupPath "bak".toList "d/.hid".toList = "d/.hid..bak".toList := by decide +kernel
example : backupPath "bak".toList "c.tar.gz".toList = "c.tar.gz.bak".toList := by decide +kernel

/-- `Separate` can be met with a backup suffix. -/
example : Separate (some "bak".toList) ["a.txt".toList, "b".toList] :=
  ⟨by decide +kernel, by intro bak h; injection h with h; subst h; decide +kernel,
   by intro bak h; injection h with h; subst h; decide +kernel⟩

end Vicut.C05
