/-
C02 — supported Vim commands do what Vim does.
The oracle is real Vim: a recorded corpus (corpus/vim_corpus.json.gz) that every run replays on vicut. Proved
here: (1) about VimSpec, the documented single-line fragment {h l 0 $ x X} with counts, validated against the
same corpus: the cursor invariant, motions keep the text, what `x`/`X` remove, when a count equals repetition;
(2) namespace Conform: on the buffer of every non-empty line the C08 model computes VimSpec's result for the
whole fragment.
-/
import Vicut.Model.VimSpec
import Vicut.Model.Motions
import Vicut.Props.C08.Motions

namespace Vicut.C02
open Vicut.VimSpec

theorem step_wf (s : VS) (c : VCmd) (s' : VS) (hs : s.WF) : step s c = some s' → s'.WF := by
  unfold VS.WF at *
  -- `h l 0 $ x X`, in the order of `step`
  fun_cases step s c <;> intro h <;> cases h
  · exact Nat.le_trans (Nat.sub_le ..) hs
  · exact Nat.min_le_right ..
  · exact Nat.zero_le _
  · exact Nat.le_refl _
  · exact Nat.min_le_right ..
  · -- `X` moved, so the cursor was not in column 0 and the line holds a character for it to stand on
    have hlt : s.cur < s.line.length := by omega
    rw [List.length_append, List.length_take_of_le (Nat.le_trans (Nat.sub_le ..) (Nat.le_of_lt hlt)), List.length_drop]
    exact Nat.le_sub_one_of_lt (Nat.lt_add_of_pos_right (Nat.sub_pos_of_lt hlt))

/-- Every key string keeps the cursor on a character. -/
theorem run_wf (s : VS) (cs : List VCmd) (hs : s.WF) : (run s cs).WF := by
  fun_induction run s cs with
  | case1 => exact hs
  | case2 s c rest s' h ih => exact ih (step_wf s c s' hs h)
  | case3 => exact hs

/-- Motions never change the text. -/
theorem motions_keep_text (s : VS) (c : VCmd) (s' : VS) (hm : c = .zero ∨ c = .dollar ∨ (∃ n, c = .h n) ∨ (∃ n, c = .l n))
    (h : step s c = some s') : s'.line = s.line := by
  rcases hm with rfl | rfl | ⟨n, rfl⟩ | ⟨n, rfl⟩ <;> simp only [step] at h
  · cases h; rfl
  · cases h; rfl
  · split at h <;> cases h; rfl
  · split at h <;> cases h; rfl

/-- `[n]x` removes exactly the `n` characters from the cursor on (fewer at the end of the line). -/
theorem x_removes (s : VS) (n : Nat) (s' : VS) (h : step s (.x n) = some s') :
    s'.line = s.line.take s.cur ++ s.line.drop (s.cur + n) ∧
    s'.line.length = s.line.length - min n (s.line.length - s.cur) := by
  simp only [step] at h
  split at h <;> cases h
  exact ⟨rfl, List.length_take_append_drop ..⟩

/-- `[n]X` removes exactly the `n` characters before the cursor (fewer at the start of the line); the cursor
moves with its character. -/
theorem X_removes (s : VS) (n : Nat) (s' : VS) (h : step s (.X n) = some s') :
    s'.line = s.line.take (s.cur - n) ++ s.line.drop s.cur ∧ s'.cur = s.cur - n := by
  simp only [step] at h
  split at h <;> cases h
  exact ⟨rfl, rfl⟩

/-- The line cut at the cursor: `[n]x` eats from `r`. -/
theorem step_x (p r : List Char) (n : Nat) (h : n < r.length) :
    step ⟨p ++ r, p.length⟩ (.x n) = some ⟨p ++ r.drop n, p.length⟩ := by
  have hne : p ++ r ≠ [] := List.append_ne_nil_of_right_ne_nil p (List.ne_nil_of_length_pos (Nat.zero_lt_of_lt h))
  have hc : p.length ≤ (p ++ r.drop n).length - 1 := by
    rw [List.length_append, List.length_drop]
    exact Nat.le_sub_one_of_lt (Nat.lt_add_of_pos_right (Nat.sub_pos_of_lt h))
  simp only [step, clamp, if_neg hne, List.take_left, List.drop_length_add_append, Nat.min_eq_left hc]

/-- **Counts on `x` add up** while characters remain to the right of what is removed. -/
theorem x_count_add (s : VS) (a b : Nat) (hs : s.cur + a + b < s.line.length) :
    (step s (.x a)).bind (fun s1 => step s1 (.x b)) = step s (.x (a + b)) := by
  obtain ⟨l, c⟩ := s
  change c + a + b < l.length at hs
  obtain ⟨p, x, r, rfl, rfl⟩ := List.exists_eq_append_cons (show c < l.length by omega)
  have h : a + b < (x :: r).length := by
    rw [List.length_append, Nat.add_assoc] at hs
    exact Nat.lt_of_add_lt_add_left hs
  rw [step_x p _ a (Nat.lt_of_le_of_lt (Nat.le_add_right a b) h), Option.bind_some,
    step_x p _ b (by rw [List.length_drop]; exact Nat.lt_sub_iff_add_lt'.mpr h), step_x p _ (a + b) h, List.drop_drop]

/-- **A count on `x` equals repetition** as long as enough characters remain to the right:
`(n+1)x = x` followed by `nx`. -/
theorem x_count_is_repetition (s : VS) (n : Nat) (hs : s.cur + n + 1 < s.line.length) :
    (step s (.x 1)).bind (fun s1 => step s1 (.x n)) = step s (.x (n + 1)) := by
  rw [Nat.add_comm n 1]
  exact x_count_add s 1 n (by omega)

/-- At the end of the line a count is not repetition: the cursor steps left once the last character is gone
(Vim: `x` twice on "abc" at `c` gives "a", `2x` gives "ab"). -/
example : run ⟨['a', 'b', 'c'], 2⟩ [.x 1, .x 1] = ⟨['a'], 0⟩ ∧ run ⟨['a', 'b', 'c'], 2⟩ [.x 2] = ⟨['a', 'b'], 1⟩ := by decide +kernel

/-- `0` is idempotent. -/
theorem zero_idem (s : VS) : run s [.zero, .zero] = run s [.zero] := rfl

/-- `$` is idempotent. -/
theorem dollar_idem (s : VS) : run s [.dollar, .dollar] = run s [.dollar] := rfl

/-- After `$`, `l` fails and the rest of the keys is abandoned. -/
theorem l_at_end_fails (s : VS) (n : Nat) (rest : List VCmd) : run s (.dollar :: .l n :: rest) = run s [.dollar] := by
  simp only [run, step]
  rw [if_pos (Nat.le_add_of_sub_le (Nat.le_refl _))]

end Vicut.C02

namespace Vicut.Conform
open Vicut Vicut.VimSpec

/-- the buffer vicut holds for the line: one grapheme per character and the terminator -/
def bufOf (line : List Char) : List Gr := line.map (fun c => [c]) ++ [['\n']]

def msOf (line : List Char) (cur : Nat) : MS := ⟨bufOf line, cur, true, false, []⟩

theorem bufOf_length (line : List Char) : (bufOf line).length = line.length + 1 := by simp [bufOf]

theorem isNlAtGs_bufOf (line : List Char) (hn : ∀ c ∈ line, c ≠ '\n') (i : Nat) :
    isNlAtGs (bufOf line) i = decide (i = line.length) := by
  induction line generalizing i with
  | nil => cases i <;> rfl
  | cons a t ih =>
    cases i with
    | zero => simp [bufOf, isNlAtGs, isNl, hn a List.mem_cons_self]
    | succ i =>
      exact (ih (fun c hc => hn c (List.mem_cons_of_mem _ hc)) i).trans (decide_eq_decide.mpr (by simp))

/-- `MS.isNlAt` is `isNlAtGs` of the buffer by definition -/
theorem isNlAt_msOf {line : List Char} (hn : ∀ c ∈ line, c ≠ '\n') (cur i : Nat) :
    (msOf line cur).isNlAt i = decide (i = line.length) := isNlAtGs_bufOf line hn i

theorem flatten_take_bufOf (line : List Char) (i : Nat) (hi : i ≤ line.length) :
    ((bufOf line).take i).flatten = line.take i := by
  rw [bufOf, List.take_append_of_le_length (by rw [List.length_map]; exact hi), ← List.map_take,
    ← List.flatMap_def, List.flatMap_singleton']

theorem flatten_drop_bufOf (line : List Char) (i : Nat) (hi : i ≤ line.length) :
    ((bufOf line).drop i).flatten = line.drop i ++ ['\n'] := by
  rw [bufOf, List.drop_append_of_le_length (by rw [List.length_map]; exact hi), ← List.map_drop, List.flatten_append,
    ← List.flatMap_def, List.flatMap_singleton']
  rfl

/-- The buffer of a line is one terminated line in the sense of `Lines`, so its bounds are read off. -/
theorem thisLine_bufOf (line : List Char) (cur : Nat) (hn : ∀ c ∈ line, c ≠ '\n') (hc : cur ≤ line.length) :
    (msOf line cur).thisLine = (0, line.length + 1) := by
  have hl : Lines.NoNl (line.map fun c => [c]) := fun g hg => by
    obtain ⟨c, hc, rfl⟩ := List.mem_map.mp hg
    exact beq_false_of_ne fun h => hn c hc (List.head_eq_of_cons_eq h)
  have hlb := Lines.lineBounds_line (pre := []) nofun hl []
  simp only [Lines.tlines_nil, List.nil_append, List.length_nil, Nat.zero_add, List.length_map] at hlb
  show (lineBounds (bufOf line) (((bufOf line).take cur).flatten.count '\n')).getD _ = _
  rw [flatten_take_bufOf line cur hc, List.count_eq_zero.mpr fun h => hn _ (List.mem_of_mem_take h) rfl, bufOf, hlb]
  rfl

theorem cur_lt {line : List Char} {cur : Nat} (hwf : (VS.mk line cur).WF) (hl : line ≠ []) : cur < line.length :=
  Nat.lt_of_le_of_lt hwf (Nat.sub_one_lt (mt List.length_eq_zero_iff.mp hl))

/-- `b`: the terminator under an operator (`x`, `dl`), the last character otherwise. -/
theorem forwardChar_line (line : List Char) (cur : Nat) (hn : ∀ c ∈ line, c ≠ '\n') (v : Bool) (b n : Nat)
    (hb : (v = true ∧ b = line.length) ∨ (v = false ∧ b + 1 = line.length)) (hc : cur ≤ b) :
    evalSimple (msOf line cur) .forwardChar n v = if min (cur + n) b = cur then .null else .on (min (cur + n) b) := by
  have hgo : forwardGo (msOf line cur) v n cur = min (cur + n) b := by
    refine Motions.forwardGo_eq _ rfl rfl v b n cur ?_ (fun i _ hi => ?_) hc <;> simp only [isNlAt_msOf hn]
    · rcases hb with ⟨rfl, rfl⟩ | ⟨rfl, hb⟩
      · simp
      · simp [hb]
    · rcases hb with ⟨rfl, rfl⟩ | ⟨rfl, hb⟩ <;> simp <;> omega
  rw [Motions.evalSimple_forwardChar _ rfl rfl, show (msOf line cur).cur = cur from rfl, hgo]

theorem backwardChar_line (line : List Char) (cur : Nat) (hn : ∀ c ∈ line, c ≠ '\n') (n : Nat) (v : Bool)
    (hc : cur ≤ line.length) :
    evalSimple (msOf line cur) .backwardChar n v = if cur - n = cur then .null else .on (cur - n) := by
  rw [Motions.evalSimple_backwardChar, show (msOf line cur).cur = cur from rfl,
    Motions.backwardGo_eq _ n cur (fun i hi => by rw [isNlAt_msOf hn]; exact decide_eq_false (by omega))]

/-- The same failure, the same column. -/
theorem conforms_of_iff {c : Prop} [Decidable c] (line : List Char) {cur p : Nat} (h : p = cur ↔ c) :
    ((if c then none else some (VS.mk line p)) = none ∧ (if p = cur then MK.null else .on p) = .null) ∨
    ∃ s', (if c then none else some (VS.mk line p)) = some s' ∧ (if p = cur then MK.null else .on p) = .on s'.cur := by
  by_cases hc : c
  · exact .inl ⟨if_pos hc, if_pos (h.mpr hc)⟩
  · exact .inr ⟨_, if_neg hc, if_neg (mt h.mp hc)⟩

/-- **`[n]l` conforms**: the model fails exactly when VimSpec does, and otherwise lands on VimSpec's column. -/
theorem l_conforms (line : List Char) (cur n : Nat) (hn : ∀ c ∈ line, c ≠ '\n') (hwf : (VS.mk line cur).WF) (hl : line ≠ [])
    (hcount : n ≥ 1) :
    (step ⟨line, cur⟩ (.l n) = none ∧ evalSimple (msOf line cur) .forwardChar n false = .null) ∨
    (∃ s', step ⟨line, cur⟩ (.l n) = some s' ∧ evalSimple (msOf line cur) .forwardChar n false = .on s'.cur) := by
  have hc := cur_lt hwf hl
  rw [forwardChar_line line cur hn false (line.length - 1) n (.inr ⟨rfl, Nat.sub_add_cancel (Nat.one_le_of_lt hc)⟩) hwf]
  exact conforms_of_iff line (show min (cur + n) (line.length - 1) = cur ↔ cur + 1 ≥ line.length by omega)

/-- **`[n]h` conforms**: both fail in column 0, and otherwise land `n` columns left, at most in column 0. -/
theorem h_conforms (line : List Char) (cur n : Nat) (hn : ∀ c ∈ line, c ≠ '\n') (hwf : (VS.mk line cur).WF) (hl : line ≠ [])
    (hcount : n ≥ 1) :
    (step ⟨line, cur⟩ (.h n) = none ∧ evalSimple (msOf line cur) .backwardChar n false = .null) ∨
    (∃ s', step ⟨line, cur⟩ (.h n) = some s' ∧ evalSimple (msOf line cur) .backwardChar n false = .on s'.cur) := by
  rw [backwardChar_line line cur hn n false (Nat.le_of_lt (cur_lt hwf hl))]
  exact conforms_of_iff line (show cur - n = cur ↔ cur = 0 by omega)

/-- **`0` conforms**: the model goes to VimSpec's column 0. -/
theorem zero_conforms (line : List Char) (cur : Nat) (hn : ∀ c ∈ line, c ≠ '\n') (hwf : (VS.mk line cur).WF) (hl : line ≠ []) :
    ∃ s', step ⟨line, cur⟩ .zero = some s' ∧ evalSimple (msOf line cur) .bol 1 false = .on s'.cur :=
  ⟨⟨line, 0⟩, rfl, congrArg (fun b : Nat × Nat => MK.on b.1) (thisLine_bufOf line cur hn (Nat.le_of_lt (cur_lt hwf hl)))⟩

/-- **`$` conforms**: the model lands on the last character of the line, like VimSpec. -/
theorem dollar_conforms (line : List Char) (cur : Nat) (hn : ∀ c ∈ line, c ≠ '\n') (hwf : (VS.mk line cur).WF) (hl : line ≠ []) :
    ∃ s', step ⟨line, cur⟩ .dollar = some s' ∧ evalSimple (msOf line cur) .eol 1 false = .on s'.cur := by
  have heol : (msOf line cur).eol = line.length + 1 :=
    congrArg Prod.snd (thisLine_bufOf line cur hn (Nat.le_of_lt (cur_lt hwf hl)))
  have hpos : 0 < line.length := List.length_pos_iff.mpr hl
  refine ⟨⟨line, line.length - 1⟩, rfl, ?_⟩
  -- `end_of_line()` is past the terminator
  simp [evalSimple, heol, isNlAt_msOf hn, hpos, Nat.ne_of_lt (Nat.sub_one_lt (Nat.ne_of_gt hpos)),
    show (msOf line cur).selecting = false from rfl]

/-- Deleting up to `p` on the buffer of a line (`x`, `X`, `dl`, `dh`). -/
theorem delete_on_line (line : List Char) (cur p : Nat) (hn : ∀ c ∈ line, c ≠ '\n') (hc : cur ≤ line.length)
    (hp : p ≤ line.length) (reg : RegName) (regs : Regs) :
    ∃ out, execVerbText .delete (.on p) reg ⟨bufOf line, cur, true⟩ regs = .ok out ∧
      out.text = line.take (min cur p) ++ line.drop (max cur p) ++ ['\n'] := by
  have hmax : max cur p ≤ line.length := Nat.max_le.mpr ⟨hc, hp⟩
  have hop := C08.operatorRange_on .delete ⟨bufOf line, cur, true⟩ p
    (fun i _ hi => by rw [isNlAtGs_bufOf line hn]; exact decide_eq_false (by simp only at hi; omega))
  refine ⟨_, C08.delete_frame _ _ reg regs _ _ false rfl hop (Nat.min_le_max ..)
    (by rw [bufOf_length]; exact Nat.le_succ_of_le hmax), ?_⟩
  simp only
  rw [flatten_take_bufOf line _ (Nat.le_trans (Nat.min_le_left ..) hc), flatten_drop_bufOf line _ hmax, List.append_assoc]

/-- **`[n]x` conforms on the text**: the model's delete removes exactly the characters VimSpec says, and the
line terminator stays. -/
theorem x_conforms (line : List Char) (cur n : Nat) (hn : ∀ c ∈ line, c ≠ '\n') (hwf : (VS.mk line cur).WF) (hl : line ≠ [])
    (hcount : n ≥ 1) (reg : RegName) (regs : Regs) :
    ∃ out, execVerbText .delete (evalSimple (msOf line cur) .forwardChar n true) reg (msOf line cur).lb regs = .ok out ∧
      out.text = (line.take cur ++ line.drop (cur + n)) ++ ['\n'] := by
  have hc := cur_lt hwf hl
  have hlt : cur < min (cur + n) line.length := Nat.lt_min.mpr ⟨Nat.lt_add_of_pos_right hcount, hc⟩
  rw [forwardChar_line line cur hn true line.length n (.inl ⟨rfl, rfl⟩) (Nat.le_of_lt hc), if_neg (Nat.ne_of_gt hlt)]
  have h := delete_on_line line cur (min (cur + n) line.length) hn (Nat.le_of_lt hc) (Nat.min_le_right ..) reg regs
  rwa [Nat.min_eq_left (Nat.le_of_lt hlt), Nat.max_eq_right (Nat.le_of_lt hlt), ← List.drop_eq_drop_min] at h

/-- **`[n]X` conforms on the text** (away from column 0, where both fail). -/
theorem X_conforms (line : List Char) (cur n : Nat) (hn : ∀ c ∈ line, c ≠ '\n') (hwf : (VS.mk line cur).WF) (hl : line ≠ [])
    (hcount : n ≥ 1) (h0 : cur ≠ 0) (reg : RegName) (regs : Regs) :
    ∃ out, execVerbText .delete (evalSimple (msOf line cur) .backwardChar n true) reg (msOf line cur).lb regs = .ok out ∧
      out.text = (line.take (cur - n) ++ line.drop cur) ++ ['\n'] := by
  have hc := cur_lt hwf hl
  rw [backwardChar_line line cur hn n true (Nat.le_of_lt hc), if_neg (by omega)]
  have h := delete_on_line line cur (cur - n) hn (Nat.le_of_lt hc) (Nat.le_trans (Nat.sub_le ..) (Nat.le_of_lt hc)) reg regs
  rwa [Nat.min_eq_right (Nat.sub_le ..), Nat.max_eq_left (Nat.sub_le ..)] at h

/-- the hypotheses of the conformance theorems can be met -/
example : (VS.mk ['a', 'b', 'c'] 0).WF ∧ (∀ c ∈ ['a', 'b', 'c'], c ≠ '\n') := by
  refine ⟨Nat.zero_le _, ?_⟩
  decide +kernel

end Vicut.Conform
