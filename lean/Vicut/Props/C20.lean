/-
C20 — dot repeats the last change exactly.
`.` and "typing X again" both reduce to a list of commands handed to LineBuf::exec_cmd from the same
state; the theorems show the two lists equal, for every command content (verbs and motions are opaque),
count and history in between. Equal effects then follow for any editor by congruence (`same_effect`).
-/
import Vicut.Model.Repeat
import Vicut.Lemmas.Basics

namespace Vicut.C20
open Vicut

def runCmds {σ : Type} (exec : σ → RCmd → σ) (s : σ) (cs : List RCmd) : σ := cs.foldl exec s

/-- Equal command lists have equal effects on text, cursor and registers, whatever the editor is. -/
theorem same_effect {σ : Type} (exec : σ → RCmd → σ) (s : σ) (a b : List RCmd) (h : a = b) :
    runCmds exec s a = runCmds exec s b := by rw [h]

/-- **`.` after a repeatable command X executes exactly X** (the command as parsed, register included). -/
theorem dot_repeats_single (rep : Option Replay) (c : RCmd) (hr : c.repeatable = true) :
    dotExecs (recordCmd rep c) 1 = [c] := by
  rw [recordCmd, if_pos hr]
  rfl

/-- **Motions, yanks and searches in between do not change what `.` repeats.** -/
theorem between_does_not_matter (rep : Option Replay) (between : List RCmd) (hb : ∀ c ∈ between, c.repeatable = false) :
    between.foldl recordCmd rep = rep :=
  List.foldl_fixed fun c hc => by simp [recordCmd, hb c hc]

/-- Hence `.` after X and such commands in between is `.` right after X. -/
theorem dot_after_between (rep : Option Replay) (c : RCmd) (hr : c.repeatable = true) (between : List RCmd)
    (hb : ∀ b ∈ between, b.repeatable = false) (n : Nat) :
    dotExecs (between.foldl recordCmd (recordCmd rep c)) n = dotExecs (some (.single c)) n := by
  rw [between_does_not_matter _ between hb, recordCmd, if_pos hr]

/-- `normalize_counts` is idempotent: a parsed (normalised) command is a fixed point. -/
theorem normalize_idem (c : RCmd) : c.normalize.normalize = c.normalize := by
  fun_cases RCmd.normalize c with
  | case1 h => rw [RCmd.normalize, if_pos h]
  | case2 h => rw [RCmd.normalize, if_neg h, Nat.one_mul]

/-- What the parser produces for "X typed with count n": the same verb, motion, register and flags,
count `n` in front, normalised (`ViNormal` calls `normalize_counts` on every parsed command). -/
def typedWithCount (c : RCmd) (n : Nat) : RCmd := c.withCount n

/-- **A count given to `.` acts as if X had been typed with that count**, and replaces X's own count. -/
theorem dot_with_count (c : RCmd) (n : Nat) (hn : n > 1) (hv : c.verb.isSome = true) :
    dotExecs (some (.single c)) n = [typedWithCount c n] := by
  simp [dotExecs, hn, hv, typedWithCount]

/-- lets `simp` use what is known of a kind: the derived `==` has no `LawfulBEq` -/
@[simp] theorem kind_beq (a b : VKind) : (a == b) = decide (a = b) := by cases a <;> cases b <;> rfl

theorem withCount_of_motion {c : RCmd} (hm : c.motion.isSome = true) (hv : c.verb.isSome = true)
    (hk : c.kind ≠ .insertMode) (n : Nat) :
    c.withCount n = { c with vcount := 1, payload := c.payload.map (fun _ => n), mcount := n } := by
  simp [RCmd.withCount, RCmd.normalize, hm, Option.isSome_iff_ne_none.mp hm, Option.isSome_iff_ne_none.mp hv, hk]

theorem withCount_kind (c : RCmd) (n : Nat) : (c.withCount n).kind = c.kind := by
  rw [RCmd.withCount]
  fun_cases RCmd.normalize <;> rfl

/-- The override forgets the old counts: `3.` after `2x` is `3x`, not `6x`. -/
theorem count_replaces (c : RCmd) (m n : Nat) (hm : c.motion.isSome = true) (hv : c.verb.isSome = true)
    (hk : c.kind ≠ .insertMode) :
    (c.withCount m).withCount n = c.withCount n := by
  rw [withCount_of_motion hm hv hk m, withCount_of_motion hm hv hk n]
  -- the override leaves verb, motion and kind alone: `hm`, `hv`, `hk` hold of its result by reduction
  refine (withCount_of_motion ?_ ?_ ?_ n).trans ?_
  · exact hm
  · exact hv
  · exact hk
  · cases c.payload <;> rfl

/-- **Chains**: the k dots of `X . . .` execute X k times, the record being `single c` at each (`.` itself is not
recorded). -/
theorem chain (c : RCmd) (k : Nat) :
    (List.replicate k (dotExecs (some (.single c)) 1)).flatten = List.replicate k c :=
  show (List.replicate k [c]).flatten = _ from List.flatten_replicate_singleton

theorem splitEntry_cons (e : RCmd) (rest : List RCmd) (he : opens e = true) : splitEntry (e :: rest) = (some e, rest) := by
  simp [splitEntry, he]

theorem splitExit_snoc (typed : List RCmd) (x : RCmd) (hx : closes x = true) : splitExit (typed ++ [x]) = (some x, typed) := by
  simp [splitExit, hx]

theorem modeExecs_session {entry exit : RCmd} (he : opens entry = true) (hx : closes exit = true)
    (typed : List RCmd) (reps n : Nat) :
    modeExecs (entry :: (typed ++ [exit])) reps n =
      [if decide (n > 1) && isChangeEntry (some entry) then entry.withCount n else entry]
      ++ rounds (belowEntry (some entry)) typed
          (max (if decide (n > 1) && !isChangeEntry (some entry) then n else reps) 1)
      ++ [exit] := by
  simp only [modeExecs, splitEntry_cons entry _ he, splitExit_snoc typed exit hx]
  split <;> rfl

/-- **`.` after an insert/replace session replays the session as typed**: opening command, typed text
(session count times), closing `<esc>`. -/
theorem dot_repeats_session (entry exit : RCmd) (typed : List RCmd) (reps : Nat)
    (he : opens entry = true) (hx : closes exit = true) :
    dotExecs (recordSession entry typed exit reps) 1 = sessionExecs entry typed exit reps := by
  simp [recordSession, dotExecs, modeExecs_session he hx, sessionExecs]

/-- With a count on an i/a/A/I/o/O/R session the text is repeated `n` times. -/
theorem dot_session_count_insert (entry exit : RCmd) (typed : List RCmd) (reps n : Nat) (hn : n > 1)
    (he : opens entry = true) (hx : closes exit = true) (hc : isChangeEntry (some entry) = false) :
    dotExecs (recordSession entry typed exit reps) n = sessionExecs entry typed exit n := by
  simp [recordSession, dotExecs, modeExecs_session he hx, sessionExecs, hn, hc]

/-- With a count on a change session (cw, s, C, cc …) the count goes to the change's motion. -/
theorem dot_session_count_change (entry exit : RCmd) (typed : List RCmd) (reps n : Nat) (hn : n > 1)
    (he : opens entry = true) (hx : closes exit = true) (hc : isChangeEntry (some entry) = true) :
    dotExecs (recordSession entry typed exit reps) n = sessionExecs (entry.withCount n) typed exit reps := by
  have hk : entry.kind = .change := by
    simp only [isChangeEntry, Bool.and_eq_true, kind_beq, decide_eq_true_eq] at hc
    exact hc.1
  simp [recordSession, dotExecs, modeExecs_session he hx, sessionExecs, hn, hc,
    belowEntry, withCount_kind, hk]

/-- **A counted `o`/`O` session puts every repetition on a line of its own**: each after the first follows
the command that opens a line below. -/
theorem counted_open_line_session (entry exit : RCmd) (typed : List RCmd) (reps : Nat) (hk : entry.kind = .lineBreak) :
    sessionExecs entry typed exit reps =
      [entry] ++ typed ++ (List.replicate (max reps 1 - 1)
        ({ entry with verb := some "InsertModeLineBreak(After)", vcount := 1 } :: typed)).flatten ++ [exit] := by
  simp [sessionExecs, rounds, belowEntry, hk]

/-- Where no motion fails the machine with abandonment is the machine without it. -/
theorem dotExecsA_of_no_failure (rep : Option Replay) (n : Nat) :
    dotExecsA (fun _ => false) rep n = dotExecs rep n := by
  unfold dotExecsA
  cases rep with
  | none => rfl
  | some r =>
    cases r with
    | single c => rfl
    | mode cmds reps =>
      cases h : replayEntry cmds n <;> simp [entryFails, dotExecs, h]

/-- `.` of a change session and typing the change again agree, whether the motion fails here or not. -/
theorem dot_of_change_agrees_with_typing (fails : RCmd → Bool) (entry exit : RCmd) (typed : List RCmd) (reps : Nat)
    (he : entry.kind = .change) (hx : closes exit = true) :
    dotExecsA fails (recordSession entry typed exit reps) 1 = sessionExecsA fails entry typed exit reps := by
  have ho : opens entry = true := by simp [opens, he]
  -- both sides test the same entry for failure
  have hr : replayEntry (entry :: typed ++ [exit]) 1 = some entry := by
    simp [replayEntry, splitEntry_cons entry _ ho]
  have := dot_repeats_session entry exit typed reps ho hx
  simp only [recordSession, dotExecs] at this
  simp only [dotExecsA, recordSession, hr, entryFails, sessionExecsA, this]

/-- **`.` of a change whose motion fails here hands nothing to the editor**, and neither does typing it again. -/
theorem dot_of_failing_change_does_nothing (fails : RCmd → Bool) (entry exit : RCmd) (typed : List RCmd) (reps : Nat)
    (he : entry.kind = .change) (hx : closes exit = true) (hf : fails entry = true) :
    dotExecsA fails (recordSession entry typed exit reps) 1 = [] ∧ sessionExecsA fails entry typed exit reps = [] := by
  have h : sessionExecsA fails entry typed exit reps = [] := by simp [sessionExecsA, he, hf]
  exact ⟨(dot_of_change_agrees_with_typing fails entry exit typed reps he hx).trans h, h⟩

/-- **Failed commands in between do not change what `.` repeats** (not repeatable, or the motion failed). -/
theorem failed_between_does_not_matter (rep : Option Replay) (between : List (RCmd × Bool))
    (hb : ∀ p ∈ between, p.1.repeatable = false ∨ p.2 = true) :
    between.foldl (fun r p => recordCmdF r p.1 p.2) rep = rep :=
  List.foldl_fixed fun p hp => by rcases hb p hp with h | h <;> simp [recordCmdF, h]

/-- A command that succeeded is recorded as before. -/
theorem recordCmdF_of_success (rep : Option Replay) (c : RCmd) : recordCmdF rep c false = recordCmd rep c := by
  simp [recordCmdF, recordCmd]

/-- Before the fix the replay was "every recorded command, `reps` times", with no opening command. -/
def dotExecsLegacy (cmds : List RCmd) (reps : Nat) : List RCmd := (List.replicate reps cmds).flatten

/-- `A!<esc>` then `.`: the old replay re-inserted `!` at the cursor, not at the end of the line, because it
did not replay the opening `A`. -/
theorem legacy_replay_differs :
    let a : RCmd := { kind := .insertMode, verb := some "InsertMode", motion := some "EndOfLine" }
    let t : RCmd := { verb := some "InsertChar('!')", motion := some "ForwardChar" }
    let x : RCmd := { kind := .normalMode, verb := some "NormalMode", motion := some "BackwardChar" }
    dotExecsLegacy [t, x] 1 ≠ sessionExecs a [t] x 1 := by decide +kernel

example : dotExecs (some (.single { verb := some "Delete", motion := some "ForwardChar", mcount := 2, repeatable := true })) 3
    = [{ verb := some "Delete", motion := some "ForwardChar", mcount := 3, repeatable := true }] := by decide +kernel
example : dotExecs (some (.single { verb := some "ReplaceCharInplace('Z')", payload := some 1, repeatable := true })) 3
    = [{ verb := some "ReplaceCharInplace('Z')", payload := some 3, vcount := 3, repeatable := true }] := by decide +kernel

end Vicut.C20
