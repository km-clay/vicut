/-
C13 — `-g` runs on exactly the matching lines, `-v` on exactly the others.
The buffer is taken through its line decomposition `build bodies t`; every non-empty buffer without CR-LF
clusters is of that form (`decompose`). `isMatch` is an arbitrary predicate (any regex engine).
-/
import Vicut.Model.Exec
import Vicut.Lemmas.Lines
import Vicut.Lemmas.Basics

namespace Vicut.C13
open Vicut

def nl : Gr := ['\n']

/-- The buffer made of these line bodies; all lines but the last are terminated, the last iff `t`. -/
def build : List (List Gr) → Bool → List Gr
  | [], _ => []
  | [b], t => if t then b ++ [nl] else b
  | b :: b' :: rest, t => b ++ [nl] ++ build (b' :: rest) t

/-- A line body: no grapheme containing a newline character. -/
def Body (b : List Gr) : Prop := ∀ g ∈ b, '\n' ∉ g

/-- Where line `i` starts: after the `i` bodies before it and their terminators. -/
def off : List (List Gr) → Nat → Nat
  | _, 0 => 0
  | [], _ => 0
  | b :: rest, i + 1 => b.length + 1 + off rest i

/-- The decomposition is canonical: an unterminated last line is not empty. -/
def Canonical (bodies : List (List Gr)) (t : Bool) : Prop :=
  bodies ≠ [] ∧ (t = false → bodies.getLast? ≠ some [])

theorem Body.noNl {b : List Gr} (hb : Body b) : Lines.NoNl b := fun g hg => Lines.isNl_of_not_mem (hb g hg)

theorem noNl_of_bodies {ls : List (List Gr)} (h : ∀ l ∈ ls, Body l) : ∀ l ∈ ls, Lines.NoNl l :=
  fun l hl => (h l hl).noNl

theorem Body.not_mem_flatten {b : List Gr} (hb : Body b) : '\n' ∉ b.flatten :=
  fun h =>
    have ⟨g, hg, hn⟩ := List.mem_flatten.mp h
    hb g hg hn

theorem Body.getLast?_ne {b : List Gr} (hb : Body b) : b.flatten.getLast? ≠ some '\n' :=
  fun h => hb.not_mem_flatten (List.mem_of_getLast? h)

/-- Only an unterminated last line has no terminator after it. -/
theorem build_cons (l : List Gr) (post : List (List Gr)) (t : Bool) :
    build (l :: post) t = l ++ if post = [] ∧ t = false then [] else ['\n'] :: build post t := by
  cases post with
  | nil => cases t <;> simp [build, nl]
  | cons b post => simp [build, nl]

theorem build_true (bodies : List (List Gr)) : build bodies true = Lines.tlines bodies := by
  induction bodies with
  | nil => rfl
  | cons b rest ih => rw [build_cons, if_neg (fun h => Bool.noConfusion h.2), ih, Lines.tlines_cons]

theorem build_append (pre : List (List Gr)) {post : List (List Gr)} (h : post ≠ []) (t : Bool) :
    build (pre ++ post) t = Lines.tlines pre ++ build post t := by
  induction pre with
  | nil => rfl
  | cons b pre ih =>
    rw [List.cons_append, build_cons, if_neg (fun h' => h (List.append_eq_nil_iff.mp h'.1).2), ih, Lines.tlines_cons,
      List.append_assoc, List.cons_append]

theorem off_split (pre : List (List Gr)) (rest : List (List Gr)) :
    off (pre ++ rest) pre.length = (Lines.tlines pre).length := by
  induction pre with
  | nil => cases rest <;> rfl
  | cons b pre ih => rw [List.cons_append, List.length_cons, off, ih, Lines.length_tlines_cons]

theorem totalLines_build (bodies : List (List Gr)) (t : Bool) (hb : ∀ b ∈ bodies, Body b) (hne : bodies ≠ []) :
    totalLines (build bodies t) = bodies.length + (if t then 1 else 0) := by
  unfold totalLines
  induction bodies with
  | nil => exact absurd rfl hne
  | cons b rest ih =>
    rw [List.forall_mem_cons] at hb
    rw [build_cons, List.flatten_append, List.count_append, List.count_eq_zero.mpr hb.1.not_mem_flatten, Nat.zero_add]
    by_cases h : rest = []
    · subst h
      cases t <;> rfl
    · rw [if_neg (fun h' => h h'.1), List.flatten_cons, List.singleton_append, List.count_cons_self, ih hb.2 h,
        List.length_cons, Nat.add_right_comm]

theorem stripNl_line (s : Str) : stripNl (s ++ ['\n']) = s := by
  simp [stripNl]

theorem stripNl_body (b : List Gr) (hb : Body b) : stripNl b.flatten = b.flatten :=
  if_neg hb.getLast?_ne

/-- A line of the buffer is tested by its body: its terminator, if it has one, is stripped. -/
theorem globalKeep_build (isMatch : Str → Bool) (pol : Bool) {pre : List (List Gr)} {l : List Gr} {post : List (List Gr)}
    {t : Bool} (hb : ∀ b ∈ pre ++ l :: post, Body b) (hc : Canonical (pre ++ l :: post) t) :
    globalKeep isMatch pol (build (pre ++ l :: post) t) pre.length = (isMatch l.flatten == pol) := by
  simp only [List.forall_mem_append, List.forall_mem_cons] at hb
  obtain ⟨hpre, hl, -⟩ := hb
  rw [globalKeep, build_append pre (List.cons_ne_nil l post), build_cons]
  by_cases h : post = [] ∧ t = false
  · obtain ⟨rfl, rfl⟩ := h
    have hne : l ≠ [] := by simpa using hc.2 rfl
    have hpos := List.length_pos_iff.mpr hne
    rw [if_pos ⟨rfl, rfl⟩, List.append_nil, Lines.lineBounds_rest (noNl_of_bodies hpre) hl.noNl]
    simp only
    rw [if_neg (by simp only [List.length_append]; omega), Lines.sliceText_rest _ hne, Option.getD_some, stripNl_body l hl]
  · rw [if_neg h, Lines.lineBounds_line (noNl_of_bodies hpre) hl.noNl]
    simp only
    rw [if_neg (by simp only [List.length_append, List.length_cons]; omega), Lines.sliceText_line, Option.getD_some, stripNl_line]

/-- The position after a final terminator is asked for and skipped. -/
theorem globalKeep_after_last (isMatch : Str → Bool) (pol : Bool) {bodies : List (List Gr)} (hb : ∀ b ∈ bodies, Body b)
    (hne : bodies ≠ []) : globalKeep isMatch pol (build bodies true) bodies.length = false := by
  have := Lines.lineBounds_rest (noNl_of_bodies hb) Lines.noNl_nil
  rw [List.append_nil] at this
  rw [globalKeep, build_true, this]
  exact if_pos ⟨List.length_pos_iff.mpr hne, Nat.le_refl _⟩

/-- **`-g` / `-v` visit exactly the lines whose text matches / does not match, bottom-up.** -/
theorem global_lines (isMatch : Str → Bool) (pol : Bool) (bodies : List (List Gr)) (t : Bool)
    (hb : ∀ b ∈ bodies, Body b) (hc : Canonical bodies t) :
    globalLines isMatch pol (build bodies t)
      = ((List.range bodies.length).filter (fun i => isMatch ((bodies[i]!).flatten) == pol)).reverse := by
  have hlines : ∀ i ∈ List.range bodies.length,
      globalKeep isMatch pol (build bodies t) i = (isMatch ((bodies[i]!).flatten) == pol) := by
    intro i hi
    have hi := List.mem_range.mp hi
    obtain ⟨pre, l, post, rfl, rfl⟩ := List.exists_eq_append_cons hi
    rw [getElem!_pos (pre ++ l :: post) pre.length hi, List.getElem_of_append rfl rfl]
    exact globalKeep_build isMatch pol hb hc
  rw [globalLines, totalLines_build bodies t hb hc.1]
  cases t with
  | false => rw [if_neg Bool.false_ne_true, Nat.add_zero, List.filter_congr hlines]
  | true =>
    rw [if_pos rfl, List.range_succ, List.filter_append, List.filter_congr hlines, List.filter_cons,
      globalKeep_after_last isMatch pol hb hc.1, if_neg Bool.false_ne_true, List.filter_nil, List.append_nil]

/-- On an empty buffer there is one (empty) line. -/
theorem global_lines_empty (isMatch : Str → Bool) (pol : Bool) :
    globalLines isMatch pol [] = if isMatch [] == pol then [0] else [] := by
  -- both steps by computation: line 0 is the only one asked for, and its text is empty
  show ([0].filter (globalKeep isMatch pol [])).reverse = _
  rw [List.filter_cons, show globalKeep isMatch pol [] 0 = (isMatch [] == pol) from rfl]
  split <;> rfl

/-- **`-v` is the complement of `-g`** over the lines of the buffer. -/
theorem v_is_complement (isMatch : Str → Bool) (bodies : List (List Gr)) (t : Bool)
    (hb : ∀ b ∈ bodies, Body b) (hc : Canonical bodies t) (i : Nat) :
    i ∈ globalLines isMatch false (build bodies t) ↔
      (i < bodies.length ∧ i ∉ globalLines isMatch true (build bodies t)) := by
  rw [global_lines isMatch false bodies t hb hc, global_lines isMatch true bodies t hb hc]
  simp only [List.mem_reverse, List.mem_filter, List.mem_range, beq_false, Bool.not_eq_eq_eq_not,
    Bool.not_true, beq_true, not_and, Bool.not_eq_true]
  constructor
  · intro ⟨h1, h2⟩; exact ⟨h1, fun _ => h2⟩
  · intro ⟨h1, h2⟩; exact ⟨h1, h2 h1⟩

/-- Each line is visited at most once. -/
theorem global_lines_nodup (isMatch : Str → Bool) (pol : Bool) (bodies : List (List Gr)) (t : Bool)
    (hb : ∀ b ∈ bodies, Body b) (hc : Canonical bodies t) :
    (globalLines isMatch pol (build bodies t)).Nodup := by
  rw [global_lines isMatch pol bodies t hb hc]
  apply ((List.reverse_perm _).nodup_iff).mpr
  exact (List.filter_sublist).nodup List.nodup_range

/-- Line `i` starts right after the `i` lines before it (their bodies and terminators). -/
theorem visit_starts_at_line_start (bodies : List (List Gr)) (t : Bool) (hb : ∀ b ∈ bodies, Body b)
    (hc : Canonical bodies t) (i : Nat) (hi : i < bodies.length) :
    (lineBounds (build bodies t) i).map Prod.fst = some (off bodies i) := by
  obtain ⟨pre, l, post, rfl, rfl⟩ := List.exists_eq_append_cons hi
  obtain ⟨e, he, -⟩ := Lines.lineBounds_mid (noNl_of_bodies fun b h => hb b (List.mem_append_left _ h)) Lines.noNl_nil
    (build (l :: post) t)
  rw [off_split, build_append pre (List.cons_ne_nil l post)]
  exact congrArg _ he

/-- **`--else` runs once iff no line was selected** (and then the scope's commands do not run). -/
theorem else_iff_empty {σ : Type} (E : Ed σ) (keep : Bool) (pat : Str) (pol : Bool) (thn els : List Cmd)
    (st : σ × Ctx) :
    execCmd E keep (.glob pat pol thn true els) st
      = if (E.globalLines pat pol st.1).isEmpty then execSeq E keep els st
        else (E.globalLines pat pol st.1).foldl (fun s ln =>
          match E.gotoLine ln s.1 with
          | none => s
          | some e => execSeq E keep thn (e, s.2)) st := by
  rw [execCmd]
  rfl

/-- Every non-empty buffer whose newline characters are stand-alone graphemes has a canonical decomposition. -/
theorem decompose (gs : List Gr) (h : ∀ g ∈ gs, '\n' ∈ g → g = nl) (hne : gs ≠ []) :
    ∃ bodies t, (∀ b ∈ bodies, Body b) ∧ Canonical bodies t ∧ gs = build bodies t := by
  obtain ⟨ls, last, hls, hlast, rfl⟩ := Lines.exists_lines gs
  -- a grapheme that holds a newline character is a terminator, and lines hold no terminator
  have body : ∀ b : List Gr, Lines.NoNl b → (∀ g ∈ b, g ∈ Lines.tlines ls ++ last) → Body b := by
    intro b hb hsub g hg hn
    have := hb g hg
    rw [h g (hsub g hg) hn] at this
    exact absurd this (by decide)
  have hbl : ∀ l ∈ ls, Body l := fun l hl => body l (hls l hl) fun g hg =>
    List.mem_append_left _ (List.mem_flatten_of_mem (List.mem_map_of_mem hl) (List.mem_append_left _ hg))
  by_cases hl : last = []
  · subst hl
    refine ⟨ls, true, hbl, ⟨?_, by simp⟩, by rw [build_true, List.append_nil]⟩
    rintro rfl; exact hne rfl
  · exact ⟨ls ++ [last], false,
      List.forall_mem_append.mpr ⟨hbl, by simpa using body last hlast fun g hg => List.mem_append_right _ hg⟩,
      ⟨by simp, by simpa using hl⟩, (build_append ls (List.cons_ne_nil last []) false).symm⟩

example : build [[['a'], ['x']], [], [['b']]] false = [['a'], ['x'], nl, nl, ['b']] := by decide +kernel
example : globalLines (fun s => s.contains 'x') true [['a'], ['x'], nl, nl, ['b'], nl] = [0] := by decide +kernel
example : globalLines (fun s => s.contains 'x') false [['a'], ['x'], nl, nl, ['b'], nl] = [2, 1] := by decide +kernel

end Vicut.C13
