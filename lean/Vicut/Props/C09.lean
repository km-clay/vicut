/-
C09 — the editor's position always agrees with its text.
The verb/motion of a command is arbitrary; what is proved is that the bookkeeping around it (clamp
operations, exec_cmd epilogue, return to normal mode, table lookups, line geometry of the cursor line,
charwise selection update) re-establishes and uses the invariants for every text and every cursor.
-/
import Vicut.Lemmas.Lines
import Vicut.Lemmas.Basics

namespace Vicut.C09
open Vicut

/-- `set`, `add`, `setMax`, `setExcl` and `new` all end in a `min _ ub` under the clamp they leave. -/
theorem set_ok (c : Clamp) (v : Nat) : (c.set v).Ok := Nat.min_le_right _ _

theorem new_ok (v m : Nat) (e : Bool) : (Clamp.new v m e).Ok := set_ok _ _

theorem sub_ok (c : Clamp) (v : Nat) (h : c.Ok) : (c.sub v).Ok := Nat.le_trans (Nat.sub_le _ _) h

theorem retAdd_le (c : Clamp) (v : Nat) : c.retAdd v ≤ c.ub := Nat.min_le_right _ _

theorem apply_ok (c : Clamp) (op : ClampOp) (h : c.Ok) : (c.apply op).Ok := by
  cases op with
  | set v | add v | setMax m | setExcl b => exact set_ok _ _
  | sub v => exact sub_ok c v h
  | inc =>
    show c.inc.1.Ok
    fun_cases Clamp.inc c
    · exact h
    · exact set_ok _ _
  | dec =>
    show c.dec.1.Ok
    fun_cases Clamp.dec c
    · exact h
    · exact sub_ok c 1 h

/-- **Every sequence of cursor operations keeps the cursor under its bound.** -/
theorem clamp_ops_ok (ops : List ClampOp) (c : Clamp) (h : c.Ok) : (ops.foldl Clamp.apply c).Ok :=
  List.foldlRecOn ops Clamp.apply h fun c hc op _ => apply_ok c op hc

/-- Before the fix the clamp kind was switched without enforcing it: insert mode at the end of the text,
then normal mode, leaves the cursor past the last character. -/
theorem setExclLegacy_breaks : ¬ ((Clamp.mk 3 3 false).setExclLegacy true).Ok := by decide +kernel

theorem excl_on_char (c : Clamp) (h : c.Ok) (he : c.excl = true) (hm : 0 < c.max) : c.value < c.max := by
  rw [Clamp.Ok, Clamp.ub, if_pos he] at h
  exact Nat.lt_of_le_of_lt h (Nat.pred_lt_of_lt hm)

theorem refresh_wf (s : EdPos) : s.refresh.WF := ⟨rfl, set_ok _ _, Or.inr rfl⟩

theorem onTerminator_pred (gs : List Gr) (v : Nat) (h : onTerminator gs v = true) : onTerminator gs (v - 1) = false := by
  -- on a terminator, `gs[v - 1]` is no newline; so `v - 1` is not on one
  unfold onTerminator at h ⊢
  cases hp : gs[v - 1]? with
  | none => rfl
  | some p =>
    split at h
    · rw [hp, Bool.and_eq_true, Bool.not_eq_true'] at h
      rw [h.2]; rfl
    · cases h

/-! `pushOff` is a `sub`, by one or by nothing. -/

theorem pushOff_gs (s : EdPos) : (pushOff s).gs = s.gs := by
  fun_cases pushOff s <;> rfl

theorem pushOff_le (s : EdPos) : (pushOff s).cur.value ≤ s.cur.value := by
  fun_cases pushOff s
  · exact Nat.sub_le _ _
  · exact Nat.le_refl _

theorem pushOff_ok {s : EdPos} (h : s.cur.Ok) : (pushOff s).cur.Ok := by
  fun_cases pushOff s
  · exact sub_ok _ _ h
  · exact h

theorem pushOff_wf {s : EdPos} (h : s.WF) : (pushOff s).WF := by
  fun_cases pushOff s
  · exact ⟨h.1, sub_ok _ _ h.2.1, h.2.2⟩
  · exact h

theorem pushOff_off {s : EdPos} (he : s.cur.excl = true) : onTerminator (pushOff s).gs (pushOff s).cur.value = false := by
  fun_cases pushOff s
  · next hc => exact onTerminator_pred _ _ (Bool.and_eq_true _ _ ▸ hc).1
  · next hc => simpa [he] using hc

/-- **Whatever the verb did**, if it changed the text or left a well-formed state, the state after `exec_cmd`
is well-formed: bound = grapheme count of the *current* text, cursor under it, table absent or fresh. -/
theorem epilogue_wf (changed : Bool) (s : EdPos) (h : changed = true ∨ s.WF) : (epilogue changed s).WF := by
  apply pushOff_wf
  cases changed with
  | true => exact refresh_wf s
  | false => exact h.resolve_left Bool.false_ne_true

/-- ... and under the normal-mode clamp the cursor is never left on the terminator of a non-empty line. -/
theorem epilogue_off_terminator (changed : Bool) (s : EdPos) (he : s.cur.excl = true) :
    onTerminator (epilogue changed s).gs (epilogue changed s).cur.value = false := by
  apply pushOff_off
  cases changed <;> exact he

theorem epilogue_keeps_text (changed : Bool) (s : EdPos) : (epilogue changed s).gs = s.gs := by
  rw [epilogue, pushOff_gs]
  cases changed <;> rfl

theorem enterNormal_ok (s : EdPos) (hm : s.cur.max = s.gs.length) : (enterNormal s).NormalOk ∧ (enterNormal s).cur.Ok := by
  refine ⟨⟨?_, pushOff_off rfl⟩, pushOff_ok (set_ok _ _)⟩
  rw [enterNormal, pushOff_gs]
  -- under its bound, the exclusive clamp is on a character, and `pushOff` only steps back
  exact fun hne => Nat.lt_of_le_of_lt (pushOff_le _) (hm ▸ excl_on_char _ (set_ok _ _) rfl (hm ▸ List.length_pos_iff.mpr hne))

/-- `enforce_cursor_clamp` (run after every mode transition): the cursor is under its bound again and,
under the exclusive clamp, off the terminator of a non-empty line. -/
theorem enforce_ok (s : EdPos) :
    (enforce s).cur.Ok ∧ (s.cur.excl = true → onTerminator (enforce s).gs (enforce s).cur.value = false) :=
  ⟨pushOff_ok (set_ok _ _), fun he => pushOff_off he⟩

theorem stepBack_eq (s : EdPos) : ∃ k, stepBack s = { s with cur := s.cur.sub k } := by
  fun_cases stepBack s
  · exact ⟨0, rfl⟩
  · exact ⟨1, rfl⟩
  · exact ⟨0, rfl⟩

/-- `set_normal_mode` from any mode: the cursor ends on a character, off the terminator of a non-empty line, under its bound. -/
theorem setNormalMode_ok (wasInsert : Bool) (s : EdPos) (hm : s.cur.max = s.gs.length) :
    (setNormalMode wasInsert s).NormalOk ∧ (setNormalMode wasInsert s).cur.Ok := by
  cases wasInsert
  · exact enterNormal_ok s hm
  · obtain ⟨k, hk⟩ := stepBack_eq s
    rw [setNormalMode, if_pos rfl, hk]
    exact enterNormal_ok _ hm

theorem byteLen_append (a b : Str) : byteLen (a ++ b) = byteLen a + byteLen b := by
  simp [byteLen]

/-- `index_byte_pos`, the table begun at `o`. -/
theorem offsetsFrom_getD (o : Nat) (gs : List Gr) (i : Nat) :
    ((offsetsFrom o gs)[i]?).getD (o + byteLen gs.flatten) = o + byteLen (gs.take i).flatten := by
  induction gs generalizing o i with
  | nil => rw [List.take_nil]; rfl
  | cons g rest ih =>
    cases i with
    | zero => rfl
    | succ j =>
      rw [List.take_succ_cons, List.flatten_cons, List.flatten_cons, byteLen_append, byteLen_append, ← Nat.add_assoc,
        ← Nat.add_assoc]
      exact ih _ j

/-- With a well-formed table, the byte offset reported for any grapheme index (inside the text or past its
end) is the byte length of the text before it. -/
theorem reported_pos (s : EdPos) (h : s.WF) (i : Nat) :
    s.indexBytePos i = byteLen (s.gs.take i).flatten := by
  have ht : s.table = offsets s.gs := by
    rcases h.2.2 with hc | hc <;> simp [EdPos.table, hc]
  rw [EdPos.indexBytePos, ht, ← Nat.zero_add (byteLen s.gs.flatten), offsets, offsetsFrom_getD, Nat.zero_add]

/-- Hence every byte offset the editor cuts at is a grapheme boundary of the current text. -/
theorem cuts_at_boundaries (s : EdPos) (h : s.WF) (i : Nat) :
    ∃ k, k ≤ s.gs.length ∧ s.indexBytePos i = byteLen (s.gs.take k).flatten :=
  ⟨min i s.gs.length, Nat.min_le_right _ _, by rw [reported_pos s h i, List.take_eq_take_min]⟩

/-- A stale table reports a position inside a character: the table of "ab" used on "éb". -/
theorem stale_table_cuts_inside_a_character :
    let s : EdPos := ⟨[['é'], ['b']], Clamp.new 1 2 true, some (offsets [['a'], ['b']])⟩
    s.indexBytePos 1 = 1 ∧ byteLen (s.gs.take 1).flatten = 2 := by decide +kernel

/-- Newline characters only occur as stand-alone graphemes (no CR LF pairs, which segment as one grapheme). -/
def NlAlone (gs : List Gr) : Prop := ∀ g ∈ gs, '\n' ∈ g → g = ['\n']

theorem count_nl_gr (g : Gr) (h : '\n' ∈ g → g = ['\n']) : g.count '\n' = if isNl g then 1 else 0 := by
  by_cases hm : '\n' ∈ g
  · rw [h hm]; rfl
  · rw [Lines.isNl_of_not_mem hm, List.count_eq_zero.mpr hm]; rfl

theorem flatten_count_nl (gs : List Gr) (h : NlAlone gs) : gs.flatten.count '\n' = countNl gs := by
  induction gs with
  | nil => rfl
  | cons g rest ih =>
    have hh := List.forall_mem_cons.mp h
    rw [List.flatten_cons, List.count_append, ih hh.2, count_nl_gr g hh.1]
    exact (Nat.add_comm _ _).trans List.countP_cons.symm

/-- Without CR LF, the newline *characters* before the cursor (the editor's line number) are the
terminator *graphemes* before it. -/
theorem cursorLine_eq (lb : LB) (h : NlAlone lb.gs) : cursorLine lb = countNl (lb.gs.take lb.cur) := by
  unfold cursorLine
  exact flatten_count_nl _ (fun g hg => h g (List.mem_of_mem_take hg))

/-- **The line that holds the cursor**: line `countNl (gs.take cur)` has bounds inside the text, around the
cursor, with no terminator between its start and the cursor. Without CR LF that is `this_line()`
(`cursorLine_eq`), which therefore never fails; `crlf_breaks_column` is the other case. -/
theorem this_line_contains_cursor (gs : List Gr) (cur : Nat) (hc : cur ≤ gs.length) :
    ∃ s e, lineBounds gs (countNl (gs.take cur)) = some (s, e) ∧ s ≤ cur ∧ cur ≤ e ∧ e ≤ gs.length ∧
      ∀ i, s ≤ i → i < cur → isNlAtGs gs i = false := by
  -- the text before the cursor is whole lines `pre` and the part `mid` of the cursor's line
  obtain ⟨pre, mid, hpre, hmid, hcut⟩ := Lines.exists_lines (gs.take cur)
  have hcur : (Lines.tlines pre).length + mid.length = cur := by
    rw [← List.length_append, ← hcut, List.length_take_of_le hc]
  obtain ⟨e, hb, he⟩ := Lines.lineBounds_mid hpre hmid (gs.drop cur)
  rw [← List.append_assoc, ← hcut, List.take_append_drop] at hb
  rw [hcur] at he
  refine ⟨_, e, ?_, Nat.le.intro hcur, he, (Lines.lineBounds_le hb).2, fun i hs hi => ?_⟩
  · rw [hcut, Lines.countNl_tlines hpre, hmid.countNl]
    exact hb
  · rw [isNlAtGs, ← List.getElem?_take_of_lt hi, hcut, List.getElem?_append_right hs]
    cases hg : mid[i - (Lines.tlines pre).length]? with
    | none => rfl
    | some g => exact hmid g (List.mem_of_getElem? hg)

/-- On texts without CR LF, when the cursor is inside the text the column never underflows. -/
theorem cursorCol_defined (gs : List Gr) (cur : Nat) (hc : cur ≤ gs.length) (h : NlAlone gs) :
    ∃ c, cursorCol gs cur = some c ∧ c ≤ cur := by
  obtain ⟨s, e, hb, hs, _, _, _⟩ := this_line_contains_cursor gs cur hc
  have hcl : (gs.take cur).flatten.count '\n' = countNl (gs.take cur) := cursorLine_eq ⟨gs, cur, false⟩ h
  rw [cursorCol, hcl, hb]
  exact ⟨cur - s, if_pos hs, Nat.sub_le _ _⟩

/-- With CR LF the column underflows (the real editor reports 2^64-7): the line number counts the `\n`
inside the `\r\n` grapheme, `line_bounds` sees no terminator there. -/
theorem crlf_breaks_column :
    let lb : LB := ⟨[['\r', '\n'], ['a'], ['\n'], ['b']], 1, true⟩
    cursorLine lb = 1 ∧ countNl (lb.gs.take lb.cur) = 0 ∧ lineBounds lb.gs (cursorLine lb) = some (3, 4) := by decide +kernel

/-- **The charwise selection always contains the cursor** and is ordered. -/
theorem char_selection_contains_cursor (a : Bool) (s e cur : Nat) :
    (updateCharSel a s e cur).2.1 ≤ (updateCharSel a s e cur).2.2 ∧
    ((updateCharSel a s e cur).2.1 = cur ∨ (updateCharSel a s e cur).2.2 = cur) := by
  fun_cases updateCharSel a s e cur
  · exact ⟨‹_›, .inl rfl⟩
  · exact ⟨Nat.le_of_not_ge ‹_›, .inr rfl⟩
  · exact ⟨‹_›, .inr rfl⟩
  · exact ⟨Nat.le_of_not_ge ‹_›, .inl rfl⟩

/-- It stays inside whatever bound the old range and the cursor respect. -/
theorem char_selection_inside (a : Bool) (s e cur m : Nat) (hs : s ≤ m) (he : e ≤ m) (hc : cur ≤ m) :
    (updateCharSel a s e cur).2.2 ≤ m := by
  fun_cases updateCharSel a s e cur <;> assumption

example : (⟨[['a'], ['\n'], ['b']], Clamp.new 1 3 true, none⟩ : EdPos).WF := by decide +kernel
example : (epilogue true ⟨[['a'], ['\n'], ['b']], ⟨9, 7, true⟩, some [0, 5]⟩) = ⟨[['a'], ['\n'], ['b']], ⟨2, 3, true⟩, some [0, 1, 2]⟩ := by decide +kernel
example : (epilogue true ⟨[['a'], ['\n'], ['b']], ⟨1, 7, true⟩, some [0, 5]⟩).cur.value = 0 := by decide +kernel
example : (enterNormal ⟨[['a'], ['b'], ['\n']], ⟨3, 3, false⟩, none⟩).cur.value = 1 := by decide +kernel

end Vicut.C09
