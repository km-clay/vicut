/-
C06 — in-place editing is all-or-nothing across files.
`proc` (what reading + executing + rendering one file yields, or that it aborts) is arbitrary: the
statements hold for every command list, every mode-specific renderer and every fault pattern.
-/
import Vicut.Model.Files

namespace Vicut.C06
open Vicut

theorem processAll_none_iff (proc : Process) (fs : FS) (files : List Path) :
    processAll proc fs files = none ↔
      ∃ p ∈ files, fs.get p = none ∨ ∃ c, fs.get p = some c ∧ proc p c = none := by
  fun_induction processAll proc fs files with
  | case1 => simp
  | case2 p ps hg => exact iff_of_true rfl ⟨p, List.mem_cons_self, .inl hg⟩
  | case3 p ps c hg hc => exact iff_of_true rfl ⟨p, List.mem_cons_self, .inr ⟨c, hg, hc⟩⟩
  | case4 p ps c hg out hc hr ih =>
    obtain ⟨q, hq, hf⟩ := ih.mp hr
    exact iff_of_true rfl ⟨q, List.mem_cons_of_mem p hq, hf⟩
  | case5 p ps c hg out hc rest hr ih => simp [hg, hc, ← ih, hr]

theorem processAll_some {proc : Process} {fs : FS} {files : List Path} {outs : List (Path × Str)}
    (h : processAll proc fs files = some outs) :
    outs.map Prod.fst = files ∧ ∀ e ∈ outs, ∃ c, fs.get e.1 = some c ∧ proc e.1 c = some e.2 := by
  fun_induction processAll proc fs files generalizing outs with
  | case1 => cases h; exact ⟨rfl, nofun⟩
  | case2 | case3 | case4 => cases h
  | case5 p ps c hg out hc rest hr ih =>
    cases h
    exact ⟨congrArg (p :: ·) (ih hr).1, List.forall_mem_cons.mpr ⟨⟨c, hg, hc⟩, (ih hr).2⟩⟩

/-- **All or nothing.** If the run exits unsuccessfully, the file system is exactly what it was. -/
theorem all_or_nothing (proc : Process) (backup : Option Str) (files : List Path) (fs : FS)
    (h : (runInplace proc backup files fs).exit ≠ 0) :
    (runInplace proc backup files fs).fs = fs := by
  revert h
  fun_cases runInplace proc backup files fs with
  | case1 => exact fun _ => rfl
  | case2 => exact fun h => absurd rfl h

/-- The run fails iff some named file cannot be read or its processing aborts. -/
theorem exit_nonzero_iff_fault (proc : Process) (backup : Option Str) (files : List Path) (fs : FS) :
    (runInplace proc backup files fs).exit ≠ 0 ↔
      ∃ p ∈ files, fs.get p = none ∨ ∃ c, fs.get p = some c ∧ proc p c = none := by
  rw [← processAll_none_iff]
  fun_cases runInplace proc backup files fs with
  | case1 hp => simp [hp]
  | case2 outs hp => simp [hp]

/-- In particular no backup is left half-done: on failure every backup path holds what it held. -/
theorem no_half_backup (proc : Process) (bak : Str) (files : List Path) (fs : FS)
    (h : (runInplace proc (some bak) files fs).exit ≠ 0) (p : Path) :
    (runInplace proc (some bak) files fs).fs.get (backupPath bak p) = fs.get (backupPath bak p) := by
  rw [all_or_nothing proc (some bak) files fs h]

/-- Position and number of faulty files do not matter: one fault anywhere is enough. -/
theorem any_fault_aborts (proc : Process) (backup : Option Str) (pre post : List Path) (p : Path) (fs : FS)
    (hf : fs.get p = none ∨ ∃ c, fs.get p = some c ∧ proc p c = none) :
    runInplace proc backup (pre ++ p :: post) fs = ⟨fs, 1⟩ := by
  rw [runInplace, (processAll_none_iff proc fs _).mpr ⟨p, by simp, hf⟩]

/-- The serial drivers before the fix did not have the property: file 1 is rewritten although file 2
aborts (kept as a kernel-checked regression witness). -/
theorem serial_legacy_counterexample :
    let fs : FS := [(['a'], ['x']), (['b'], ['y'])]
    let proc : Process := fun p c => if p == ['b'] then none else some (c ++ ['!'])
    (runInplaceSerialLegacy proc none [['a'], ['b']] fs).exit = 1 ∧
    (runInplaceSerialLegacy proc none [['a'], ['b']] fs).fs ≠ fs := by
  decide +kernel

example : (runInplace (fun _ c => some (c ++ ['!'])) (some ['b','a','k']) [['a']] [(['a'], ['x'])])
    = ⟨[(['a'], ['x', '!']), (['a', '.', '.', 'b', 'a', 'k'], ['x'])], 0⟩ := by decide +kernel
example : (runInplace (fun p c => if p == ['b'] then none else some c) none [['a'], ['b']] [(['a'], ['x']), (['b'], ['y'])]).exit ≠ 0 := by decide +kernel

end Vicut.C06
