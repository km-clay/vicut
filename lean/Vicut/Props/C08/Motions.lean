import Vicut.Model.Motions
import Vicut.Props.C08.Verbs
import Vicut.Props.C09

/-! # Motions feeding the operators
`l` `h` stay on their line, `f` `F` land on their character, the positions `h l 0 ^ | $` produce lie inside the text
(an operator gets `s ≤ e ≤ len`), the cursor ends under its clamp; `LineEnd`: counts on `dd` `yy` `cc`. -/
namespace Vicut.Motions
open Vicut

theorem isNlAt_lt {s : MS} {i : Nat} (h : s.isNlAt i = true) : i < s.max :=
  Nat.lt_of_not_le fun hle => by rw [MS.isNlAt, List.getElem?_eq_none hle] at h; cases h

theorem forwardGo_le_max (s : MS) (v : Bool) (n t : Nat) (ht : t ≤ s.max) : forwardGo s v n t ≤ s.max := by
  fun_induction forwardGo s v n t
  case case4 ih | case6 ih => exact ih (Nat.min_le_right _ _)
  all_goals exact ht

/-- **`l`** (normal mode, not selecting) never leaves its line: it ends at or after the start inside the text, passes
over no terminator, and without an operator does not end on one unless it did not move. -/
theorem forward_stays_on_line (s : MS) (hn : s.selecting = false) (he : s.excl = true) (v : Bool) (n t : Nat)
    (ht : t ≤ s.max) :
    t ≤ forwardGo s v n t ∧ forwardGo s v n t ≤ s.max ∧
    (∀ i, t ≤ i → i < forwardGo s v n t → s.isNlAt i = false) ∧
    (v = false → forwardGo s v n t ≠ t → s.isNlAt (forwardGo s v n t) = false) := by
  fun_induction forwardGo s v n t
  case case4 n t _ h1 h2 ih =>
    -- the only branch that moves
    obtain ⟨a, b, c, d⟩ := ih (Nat.min_le_right _ _)
    refine ⟨Nat.le_trans (Nat.le_min.mpr ⟨Nat.le_succ t, ht⟩) a, b, fun i hi hip => ?_, fun hv _ => ?_⟩
    · by_cases hit : i = t
      · exact hit ▸ Bool.eq_false_iff.mpr h1
      · exact c i (Nat.le_trans (Nat.min_le_left _ _) (Nat.lt_of_le_of_ne hi (Ne.symm hit))) hip
    · by_cases hp : forwardGo s v n (min (t + 1) s.max) = min (t + 1) s.max
      · rw [hp]
        exact Bool.eq_false_iff.mpr fun h => h2 (by rw [hv, h]; rfl)
      · exact d hv hp
  case case5 h _ | case6 h _ _ => exact absurd (by rw [hn, he]; rfl) h
  all_goals exact ⟨Nat.le_refl _, ht, fun i a b => absurd b (Nat.not_lt.mpr a), fun _ hne => absurd rfl hne⟩

theorem forwardGo_succ (s : MS) (hn : s.selecting = false) (hx : s.excl = true) (v : Bool) (n t : Nat) :
    forwardGo s v (n + 1) t =
      if (s.isNlAt t || (!v && s.isNlAt (min (t + 1) s.max))) = true then t else forwardGo s v n (min (t + 1) s.max) := by
  simp only [forwardGo, hn, hx, Bool.not_false, Bool.true_and, ↓reduceIte]
  cases s.isNlAt t <;> rfl

/-- **`l` in normal mode, exactly**; `b` is the first position where the loop's own stop test holds. -/
theorem forwardGo_eq (s : MS) (hn : s.selecting = false) (hx : s.excl = true) (v : Bool) (b n t : Nat)
    (hstop : (s.isNlAt b || (!v && s.isNlAt (b + 1))) = true)
    (hgo : ∀ i, t ≤ i → i < b → (s.isNlAt i || (!v && s.isNlAt (i + 1))) = false) (ht : t ≤ b) :
    forwardGo s v n t = min (t + n) b := by
  have hb : b + 1 ≤ s.max := by
    rcases Bool.or_eq_true_iff.mp hstop with h | h
    · exact isNlAt_lt h
    · exact Nat.le_of_lt (isNlAt_lt (Bool.and_eq_true_iff.mp h).2)
  induction n generalizing t with
  | zero => exact (Nat.min_eq_left ht).symm
  | succ n ih =>
    by_cases htb : t = b
    · rw [htb, forwardGo_succ s hn hx, Nat.min_eq_left hb, if_pos hstop]
      exact (Nat.min_eq_right (Nat.le_add_right _ _)).symm
    · have hlt : t < b := Nat.lt_of_le_of_ne ht htb
      rw [forwardGo_succ s hn hx, Nat.min_eq_left (Nat.le_trans hlt (Nat.le_of_succ_le hb)),
        if_neg (by rw [hgo t (Nat.le_refl _) hlt]; exact Bool.false_ne_true),
        ih (t + 1) (fun i h1 h2 => hgo i (Nat.le_of_succ_le h1) h2) hlt, Nat.add_right_comm, Nat.add_assoc]

theorem backward_stays_on_line (s : MS) (n t : Nat) :
    backwardGo s n t ≤ t ∧ ∀ i, backwardGo s n t ≤ i → i < t → s.isNlAt i = false := by
  fun_induction backwardGo s n t
  case case3 n t hc ih =>
    refine ⟨Nat.le_trans ih.1 (Nat.sub_le _ _), fun i hi hit => ?_⟩
    by_cases hm : i = t - 1
    · exact hm ▸ Bool.eq_false_iff.mpr fun h => hc (.inr h)
    · exact ih.2 i hi (Nat.lt_of_le_of_ne (Nat.le_sub_one_of_lt hit) hm)
  all_goals exact ⟨Nat.le_refl _, fun i h1 h2 => absurd h2 (Nat.not_lt.mpr h1)⟩

theorem backwardGo_eq (s : MS) (n t : Nat) (hclear : ∀ i, i < t → s.isNlAt i = false) :
    backwardGo s n t = t - n := by
  induction n generalizing t with
  | zero => rfl
  | succ n ih =>
    unfold backwardGo
    cases t with
    | zero => rw [if_pos (.inl rfl), Nat.zero_sub]
    | succ t =>
      rw [if_neg (by rw [Nat.add_sub_cancel, hclear t (Nat.lt_succ_self t)]; exact fun h => by cases h <;> contradiction),
        Nat.add_sub_cancel, ih t (fun i hi => hclear i (Nat.lt_succ_of_lt hi)), Nat.add_sub_add_right]

theorem evalSimple_forwardChar (s : MS) (hn : s.selecting = false) (hx : s.excl = true) (n : Nat) (v : Bool) :
    evalSimple s .forwardChar n v = if forwardGo s v n s.cur = s.cur then .null else .on (forwardGo s v n s.cur) := by
  simp [evalSimple, hn, hx]

theorem evalSimple_backwardChar (s : MS) (n : Nat) (v : Bool) :
    evalSimple s .backwardChar n v = if backwardGo s n s.cur = s.cur then .null else .on (backwardGo s n s.cur) := by
  simp [evalSimple]

theorem firstWordGo_bounds (s : MS) (fuel i p : Nat) (h : firstWordGo s fuel i = some p) : i ≤ p ∧ p < s.max := by
  fun_induction firstWordGo s fuel i
  case case3 hi _ => cases h; exact ⟨Nat.le_refl _, Nat.lt_of_not_ge hi⟩
  case case5 ih => exact ⟨Nat.le_of_succ_le (ih h).1, (ih h).2⟩
  all_goals cases h

/-- `gg`/`G` as plain motions: the scan for the first non-blank stays inside its line. -/
theorem skipBlanks_in_line (s : MS) (e f p : Nat) : p ≤ skipBlanks s e f p ∧ (p < e → skipBlanks s e f p < e) := by
  obtain ⟨h1, _, h3⟩ := scanUp_spec (g := skipBlanks s e) (fun _ => rfl) (fun _ _ => rfl) f p
  exact ⟨h1, fun hp => h3 (· < e) hp fun i _ hq => by simp only [Bool.and_eq_true, decide_eq_true_eq] at hq; exact hq.1.1.1.1⟩

theorem thisLine_bounds (s : MS) (hc : s.cur ≤ s.max) (hnl : C09.NlAlone s.gs) :
    s.sol ≤ s.cur ∧ s.cur ≤ s.eol ∧ s.eol ≤ s.max := by
  obtain ⟨a, b, hb, h1, h2, h3, _⟩ := C09.this_line_contains_cursor s.gs s.cur hc
  have hcl : cursorLine s.lb = countNl (s.gs.take s.cur) := C09.cursorLine_eq s.lb hnl
  have : Vicut.thisLine s.lb = some (a, b) := by
    unfold Vicut.thisLine; rw [hcl]; exact hb
  simp only [MS.sol, MS.eol, MS.thisLine, this, Option.getD_some, MS.max]
  exact ⟨h1, h2, h3⟩

theorem on_of_ite {c : Prop} [Decidable c] {x p : Nat} (h : (if c then MK.null else MK.on x) = MK.on p) : x = p := by
  split at h
  · cases h
  · exact MK.on.inj h

/-- **Every position produced by `h l 0 ^ |` and by `$` (count 1) lies inside the text.** -/
theorem simple_motion_in_bounds (s : MS) (m : SMotion) (count : Nat) (app : Bool) (p : Nat)
    (hc : s.cur ≤ s.max) (hnl : C09.NlAlone s.gs)
    (hm : m = .forwardChar ∨ m = .backwardChar ∨ m = .bol ∨ m = .firstWord ∨ m = .toColumn ∨ (m = .eol ∧ count = 1))
    (h : evalSimple s m count app = .on p) : p ≤ s.max := by
  have hb := thisLine_bounds s hc hnl
  rcases hm with rfl | rfl | rfl | rfl | rfl | ⟨rfl, rfl⟩ <;> simp only [evalSimple, ↓reduceIte] at h
  · exact on_of_ite h ▸ forwardGo_le_max s app count s.cur hc
  · exact on_of_ite h ▸ Nat.le_trans (backward_stays_on_line s count s.cur).1 hc
  · exact MK.on.inj h ▸ Nat.le_trans hb.1 hc
  · split at h
    · next q hq => cases h; exact Nat.le_of_lt (firstWordGo_bounds s _ _ _ hq).2
    · cases h
  · cases h; exact Nat.min_le_right _ _
  · -- `$`: the end of the line, one back off a terminator, one more without an operator
    generalize hpos : (if _ = true then s.eol - 1 else s.eol) = pos at h
    rw [← apply_ite MK.on] at h
    exact MK.on.inj h ▸ Nat.le_trans (ite_pred_le pos) (Nat.le_trans (hpos ▸ ite_pred_le s.eol) hb.2.2)

/-- An operator over a motion to `On p` inside the text gets a range `s ≤ e ≤ len`, which `drain`/`slice` accept. -/
theorem operator_range_valid (s : MS) (p : Nat) (hp : p ≤ s.max) (hc : s.cur ≤ s.max) :
    ∃ a b, rangeFromMotion s.lb (.on p) = some (a, b) ∧ a ≤ b ∧ b ≤ s.gs.length := by
  have hmax : max s.cur p ≤ s.gs.length := Nat.max_le.mpr ⟨hc, hp⟩
  obtain h | ⟨h, hlt, _⟩ := C08.rangeFromMotion_on s.lb p
  · exact ⟨_, _, h, Nat.min_le_max _ _, hmax⟩
  · exact ⟨_, _, h, Nat.le_sub_one_of_lt hlt, Nat.le_trans (Nat.sub_le _ _) hmax⟩

example : evalSimple ⟨[['a'], ['b'], ['\n'], ['c']], 0, true, false, [false, false, true, false]⟩ .forwardChar 5 false = .on 1 := by decide +kernel
/-- `3h` in column 1 goes to column 0 (fix 0954d9e); `h` in column 0 fails -/
example : evalSimple ⟨[['x'], ['\n'], ['a'], ['b']], 3, true, false, [false, true, false, false]⟩ .backwardChar 3 false = .on 2 := by decide +kernel
example : evalSimple ⟨[['x'], ['\n'], ['a'], ['b']], 2, true, false, [false, true, false, false]⟩ .backwardChar 1 false = .null := by decide +kernel
example : evalSimple ⟨[['a'], ['b'], ['\n'], ['c']], 1, true, false, [false, false, true, false]⟩ .forwardChar 1 false = .null := by decide +kernel
/-- with an operator (`x`, `dl`) the last character of the line is reached -/
example : evalSimple ⟨[['a'], ['b'], ['\n'], ['c']], 1, true, false, [false, false, true, false]⟩ .forwardChar 1 true = .on 2 := by decide +kernel
/-- `2$` on the last line fails; `d$` reaches the terminator -/
example : evalSimple ⟨[['a'], ['b'], ['\n']], 0, true, false, [false, false, true]⟩ .eol 2 false = .null := by decide +kernel
example : evalSimple ⟨[['a'], ['b'], ['\n'], ['c']], 0, true, false, [false, false, true, false]⟩ .eol 1 true = .on 2 := by decide +kernel
example : evalSimple ⟨[['a'], ['b'], ['\n'], ['c']], 0, true, false, [false, false, true, false]⟩ .forwardChar 1 false = .on 1 := by decide +kernel
example : evalSimple ⟨[['a'], ['b'], ['\n'], ['c']], 0, true, false, [false, false, true, false]⟩ .eol 1 false = .on 1 := by decide +kernel
example : evalSimple ⟨[['a'], ['b'], ['\n'], ['c']], 0, false, false, [false, false, true, false]⟩ .eol 1 true = .on 2 := by decide +kernel

theorem charSearchGo_lands {gs : List Gr} {ub lo hi : Nat} {fwd : Bool} {ch : Gr} (hub : gs.length ≤ ub + 1) {n pos p : Nat}
    (h : charSearchGo gs ub lo hi fwd ch n pos = some p) :
    (n = 0 ∧ p = pos) ∨ (gs[p]? = some ch ∧ (fwd = false → p < pos)) := by
  -- one round: the clamp leaves the occurrence `i` alone, and the rest starts there
  have step : ∀ {n i pos : Nat}, (gs[i]? == some ch) = true → (fwd = false → i < pos) →
      ((n = 0 ∧ p = min i ub) ∨ (gs[p]? = some ch ∧ (fwd = false → p < min i ub))) →
      gs[p]? = some ch ∧ (fwd = false → p < pos) := by
    intro n i pos hc hlt ih
    have hc := eq_of_beq hc
    have hm : min i ub = i := Nat.min_eq_left (by have := (List.getElem?_eq_some_iff.mp hc).1; omega)
    rw [hm] at ih
    rcases ih with ⟨_, rfl⟩ | ⟨a, b⟩
    · exact ⟨hc, hlt⟩
    · exact ⟨a, fun hf => Nat.lt_trans (b hf) (hlt hf)⟩
  fun_induction charSearchGo gs ub lo hi fwd ch n pos
  case case1 => exact .inl ⟨rfl, (Option.some.inj h).symm⟩
  case case2 | case4 => cases h
  case case3 hf i hi ih => exact .inr (step (List.find?_some hi :) (fun h => by simp [hf] at h) (ih h))
  case case5 i hi ih =>
    exact .inr (step (List.find?_some hi :)
      (fun _ => (List.mem_range'_sub (List.mem_reverse.mp (List.mem_of_find?_eq_some hi))).2) (ih h))

theorem evalCharSearch_lands (s : MS) (fwd : Bool) (ch : Gr) (n p : Nat) :
    evalCharSearch s fwd false ch (n + 1) = .onto p → s.gs[p]? = some ch ∧ (fwd = false → p < s.cur) := by
  fun_cases evalCharSearch s fwd false ch (n + 1) false <;> intro h
  -- `case2`: found, no operator
  case case2 q hq _ =>
    exact MK.onto.inj h ▸ (charSearchGo_lands (by unfold MS.max; split <;> omega) hq).resolve_left (fun h => nomatch h.1)
  all_goals cases h

/-- **`f<c>`** lands on an occurrence of the character (or fails). -/
theorem f_lands_on_char (s : MS) (ch : Gr) (p : Nat)
    (h : evalCharSearch s true false ch 1 = .onto p) : s.gs[p]? = some ch :=
  (evalCharSearch_lands s true ch 0 p h).1

/-- **`F<c>`** lands on an occurrence of the character, to the left of the cursor (or fails). -/
theorem F_lands_on_char (s : MS) (ch : Gr) (p : Nat)
    (h : evalCharSearch s false false ch 1 = .onto p) : s.gs[p]? = some ch ∧ p < s.cur :=
  (evalCharSearch_lands s false ch 0 p h).imp_right fun hlt => hlt rfl

/-- `F` sees the character immediately before the cursor (fix 602f313). -/
example : evalCharSearch ⟨[['a'], ['b']], 1, true, false, []⟩ false false ['a'] 1 = .onto 0 := by decide +kernel
example : evalCharSearch ⟨[['a'], ['x'], ['b']], 2, true, false, []⟩ false false ['a'] 1 = .onto 0 := by decide +kernel
/-- `2ta` stops before the second occurrence (fix f7e2646). -/
example : evalCharSearch ⟨[['a'], ['b'], ['a'], ['c'], ['a']], 0, true, false, []⟩ true true ['a'] 2 = .onto 3 := by decide +kernel
/-- `dta` with the `a` right after the cursor takes the cursor grapheme (fix 302302f). -/
example : evalCharSearch ⟨[['x'], ['a'], ['\n']], 0, true, false, []⟩ true true ['a'] 1 true = .inclusive 0 0 := by decide +kernel
/-- `fa` does not leave the cursor line. -/
example : evalCharSearch ⟨[['x'], ['\n'], ['a']], 0, true, false, []⟩ true false ['a'] 1 = .null := by decide +kernel

theorem clampTo_le (v len : Nat) (excl : Bool) : clampTo v len excl ≤ (if excl then len - 1 else len) := Nat.min_le_right _ _

/-- **A motion command leaves the cursor under its clamp**, whatever the `MotionKind`. -/
theorem moveCursor_under_clamp (s : MS) (mk : MK) (sc : Option Nat) (hc : s.cur ≤ (if s.excl then s.max - 1 else s.max)) :
    moveCursor s mk sc ≤ (if s.excl then s.max - 1 else s.max) := by
  -- each branch is a clamped value or the old cursor; `case3` is `.to` (one back from it), `case11` `.lineOffset`
  fun_cases moveCursor s mk sc
  case case3 => exact Nat.le_trans (Nat.sub_le _ _) (clampTo_le _ _ _)
  case case11 k =>
    generalize (if k < 0 then _ else _) = target
    dsimp only
    split
    · exact clampTo_le _ _ _
    · split
      · exact clampTo_le _ _ _
      · exact hc
  all_goals first | exact clampTo_le _ _ _ | exact hc

/-- ... and, after the epilogue, never on the terminator of a non-empty line under the exclusive clamp. -/
theorem cursorAfterMotion_ok (s : MS) (mk : MK) (sc : Option Nat) (hc : s.cur ≤ (if s.excl then s.max - 1 else s.max)) :
    cursorAfterMotion s mk sc ≤ (if s.excl then s.max - 1 else s.max) ∧
    (s.excl = true → ¬ (s.isNlAt (cursorAfterMotion s mk sc) = true ∧ cursorAfterMotion s mk sc > 0 ∧
        s.isNlAt (cursorAfterMotion s mk sc - 1) = false)) := by
  have hm := moveCursor_under_clamp s mk sc hc
  unfold cursorAfterMotion
  generalize moveCursor s mk sc = v at hm ⊢
  dsimp only
  split
  · next hcond =>
    simp only [Bool.and_eq_true, Bool.not_eq_true'] at hcond
    exact ⟨Nat.le_trans (Nat.sub_le _ _) hm, fun _ h => absurd h.1 (by rw [hcond.2]; exact Bool.false_ne_true)⟩
  · next hcond =>
    refine ⟨hm, fun he h => hcond ?_⟩
    simp only [Bool.and_eq_true, decide_eq_true_eq, Bool.not_eq_true']
    exact ⟨⟨⟨he, h.1⟩, h.2.1⟩, h.2.2⟩

end Vicut.Motions

namespace Vicut.LineEnd
open Vicut

/-- **`dd` / `yy` / `cc` always have a line to work on**: with count one `select_lines_down` is the cursor line,
also on the last line (fix 0cdfd90). -/
theorem whole_line_count_one (s : MS) : s.selectLinesDown 0 = some (s.sol, s.eol) :=
  if_pos rfl

/-- A count larger than one fails on the last line. -/
theorem whole_line_count_fails_on_last (s : MS) (n : Nat) (hn : n > 0) (hl : s.eol = s.max) :
    s.selectLinesDown n = none := by
  rw [MS.selectLinesDown, if_neg (Nat.ne_of_gt hn), if_pos hl]

end Vicut.LineEnd
