import Vicut.Lemmas.Scans

/-! # Word motions and word objects
`w W e E` never move backwards (`w W` land on a non-blank or at the end of the text), `b B` never forwards, every
position a word motion produces lies inside the text; `iw aw iW aW` contain the cursor, `iw` is of one kind and `aw`
covers it. -/
namespace Vicut.Words
open Vicut

/-- The values `w` / `W` can return: the end of the text, or a grapheme from `pos` on that is no blank (under `incl`
it may be one). -/
theorem startFwd_elim (s : WS) (pos : Nat) (big incl : Bool) {P : Nat → Prop} (hlen : P s.len)
    (hr : ∀ r, pos ≤ r → r < s.len → incl = true ∨ s.ws r = false → P r) : P (startFwd s pos big incl) := by
  have skip : ∀ i, pos ≤ i → P ((findUp (fun i => !s.ws i) i s.len).getD s.len) := by
    intro i h
    cases hf : findUp (fun i => !s.ws i) i s.len with
    | none => exact hlen
    | some r =>
      exact hr r (Nat.le_trans h (findUp_spec hf).1) (findUp_spec hf).2.1 (.inr (by simpa using (findUp_spec hf).2.2))
  -- branches: 1 past the end; 2–3 `W` on a blank (`incl`/skip); 4–6 `W` on a non-blank (no blank ahead/`incl`/skip);
  -- 7–9 `w` on a non-blank likewise; 10 `w` on a blank
  fun_cases startFwd s pos big incl
  case case1 | case4 | case7 => exact hlen
  case case2 h _ _ hi => exact hr pos (Nat.le_refl _) (Nat.lt_of_not_ge h) (.inl hi)
  case case3 => exact skip (pos + 1) (Nat.le_succ _)
  case case5 w hw hi => exact hr w (findUp_spec hw).1 (findUp_spec hw).2.1 (.inl hi)
  case case6 w hw _ => exact skip (w + 1) (Nat.le_succ_of_le (findUp_spec hw).1)
  case case8 o ho hk => exact hr o (findUp_spec ho).1 (findUp_spec ho).2.1 (by simpa [or_comm] using hk)
  case case9 o ho _ => exact skip (o + 1) (Nat.le_succ_of_le (findUp_spec ho).1)
  case case10 => exact skip pos (Nat.le_refl _)

/-- **`w` / `W` never move backwards** and stay inside the text. -/
theorem startFwd_ge (s : WS) (pos : Nat) (big incl : Bool) (hp : pos ≤ s.len) :
    pos ≤ startFwd s pos big incl ∧ startFwd s pos big incl ≤ s.len :=
  startFwd_elim s pos big incl (P := fun r => pos ≤ r ∧ r ≤ s.len) ⟨hp, Nat.le_refl _⟩
    fun _ h1 h2 _ => ⟨h1, Nat.le_of_lt h2⟩

/-- **`w` / `W` (as a motion, not `cw`) land on a non-blank grapheme, or at the end of the text.** -/
theorem startFwd_lands (s : WS) (pos : Nat) (big : Bool) :
    startFwd s pos big false = s.len ∨ s.ws (startFwd s pos big false) = false :=
  startFwd_elim s pos big false (P := fun r => r = s.len ∨ s.ws r = false) (.inl rfl)
    fun _ _ _ h => .inr (h.resolve_left nofun)

/-- The values `e` / `E` can return: the end of the text, or one before a position after `pos`. -/
theorem endFwd_elim (s : WS) (pos : Nat) (big : Bool) {P : Nat → Prop} (hlen : P s.len)
    (hw : ∀ w, pos < w → w < s.len → P (w - 1)) : P (endFwd s pos big) := by
  fun_cases endFwd s pos big
  · exact hlen
  · exact hlen
  -- of `onB`, `p1`, `it1` only `pos < it1` matters
  generalize (if big = true then _ else _) = onB
  dsimp only
  generalize (if onB = true then pos + 1 else pos) = p1
  generalize hit : (if onB = true then pos + 2 else pos + 1) = it1
  have h1 : pos < it1 := by subst hit; split <;> omega
  have last : ∀ (q : Nat → Bool) it, pos < it → P (match findUp q it s.len with | none => s.len | some w => w - 1) := by
    intro q it h
    cases hf : findUp q it s.len with
    | none => exact hlen
    | some w => exact hw w (Nat.lt_of_lt_of_le h (findUp_spec hf).1) (findUp_spec hf).2.1
  -- over blanks if on one; the `exact`s close by computation
  cases big <;> cases hws : s.ws p1
  case false.false | true.false => exact last _ it1 h1
  all_goals
    cases hj : findUp (fun i => !s.ws i) it1 s.len with
    | none => exact hlen
    | some j => exact last _ (j + 1) (Nat.lt_succ_of_lt (Nat.lt_of_lt_of_le h1 (findUp_spec hj).1))

/-- **`e` / `E` never move backwards** and stay inside the text. -/
theorem endFwd_ge (s : WS) (pos : Nat) (big : Bool) (hp : pos ≤ s.len) : pos ≤ endFwd s pos big ∧ endFwd s pos big ≤ s.len :=
  endFwd_elim s pos big (P := fun r => pos ≤ r ∧ r ≤ s.len) ⟨hp, Nat.le_refl _⟩
    fun _ h1 h2 => ⟨Nat.le_sub_one_of_lt h1, Nat.le_trans (Nat.sub_le _ _) (Nat.le_of_lt h2)⟩

/-- **`b` / `B` never move forwards.** -/
theorem startBwd_le (s : WS) (pos : Nat) (big : Bool) (hp : pos ≤ s.len) : startBwd s pos big ≤ pos := by
  -- a scan below `k` finds some `w < k`, of which `w + 1` at most is made
  -- (`B` makes `if w = s.len then w else w + 1`, which is `ite_pred_le` read at `w + 1`)
  have last : ∀ (q : Nat → Bool) (f : Nat → Nat) k, (∀ w, f w ≤ w + 1) →
      (match findDown q k with | none => 0 | some w => f w) ≤ k := by
    intro q f k hf
    cases hw : findDown q k with
    | none => exact Nat.zero_le _
    | some w => exact Nat.le_trans (hf w) (findDown_spec hw).1
  fun_cases startBwd s pos big
  case case2 => exact Nat.zero_le _
  -- `B` and `b` alike scan below `k1 ≤ pos`, on a blank below the non-blank `j` found below `k1`
  all_goals
    dsimp only
    generalize hk : (if _ = true then pos - 1 else pos) = k1
    refine Nat.le_trans ?_ (hk ▸ ite_pred_le pos)
    clear hk
  case case1 =>
    refine ite_le (Nat.zero_le _) ?_
    cases hws : s.ws k1
    · exact last _ _ k1 fun w => ite_pred_le (w + 1)
    · exact last _ _ k1 fun j => Nat.le_succ_of_le (last _ _ j fun w => ite_pred_le (w + 1))
  case case3 =>
    cases hws : s.ws k1
    · exact last _ _ k1 fun w => Nat.le_refl _
    · cases hj : findDown (fun i => !s.ws i) k1 with
      | none => exact Nat.zero_le _
      | some j => exact Nat.le_trans (last _ _ j fun w => Nat.le_refl _) (Nat.le_of_lt (findDown_spec hj).1)

/-- Every position a word motion produces lies inside the text (`ge` outside visual mode: an ordered range inside it). -/
theorem evalWord_in_bounds (s : WS) (cur : Nat) (k : WKind) (big : Bool) (count : Nat) (change sel : Bool) (hc : cur ≤ s.len) :
    evalWord s cur k big count change sel = .null ∨
    (∃ p, evalWord s cur k big count change sel = .on p ∧ p ≤ s.len) ∨
    (∃ p, evalWord s cur k big count change sel = .onto p ∧ p ≤ s.len) ∨
    (∃ a b, evalWord s cur k big count change sel = .inclusive a b ∧ a ≤ b ∧ b ≤ s.len) := by
  fun_cases evalWord s cur k big count change sel
  · exact .inl rfl
  generalize hpos : min _ s.len = pos
  have hp : pos ≤ s.len := hpos ▸ Nat.min_le_right _ _
  cases k
  case endFwd => exact .inr (.inr (.inl ⟨_, rfl, hp⟩))
  case endBwd =>
    cases sel
    · exact .inr (.inr (.inr ⟨_, _, rfl,
        ordered_eq .. ▸ Nat.min_le_max _ _,
        ordered_eq .. ▸ Nat.max_le.mpr ⟨hc, hp⟩⟩))
    · exact .inr (.inl ⟨_, rfl, hp⟩)
  all_goals exact .inr (.inl ⟨_, rfl, hp⟩)

/-- `b`, `B`, `ge`, `gE` on the first grapheme of the buffer fail. -/
theorem backward_word_at_start_fails (s : WS) (big : Bool) (count : Nat) (change sel : Bool) :
    evalWord s 0 .startBwd big count change sel = .null ∧ evalWord s 0 .endBwd big count change sel = .null :=
  ⟨rfl, rfl⟩

/-- the classes of "ab  cd.e" -/
example : startFwd ⟨[2, 2, 1, 1, 2, 2, 0, 2]⟩ 0 false false = 4 := by decide +kernel
example : startFwd ⟨[2, 2, 1, 1, 2, 2, 0, 2]⟩ 4 false false = 6 := by decide +kernel
example : startFwd ⟨[2, 2, 1, 1, 2, 2, 0, 2]⟩ 4 true false = 8 := by decide +kernel
example : endFwd ⟨[2, 2, 1, 1, 2, 2, 0, 2]⟩ 0 false = 1 := by decide +kernel
example : startBwd ⟨[2, 2, 1, 1, 2, 2, 0, 2]⟩ 5 false = 4 := by decide +kernel
example : evalWord ⟨[2, 2, 1, 1, 2, 2, 0, 2]⟩ 0 .startFwd false 1 true = .on 2 := by decide +kernel

theorem wkind_lt {s : WS} {big : Bool} {i k : Nat} (h : wkind s big i = some k) : i < s.len :=
  Nat.lt_of_not_le fun hle => by
    rw [wkind, List.getElem?_eq_none hle] at h
    cases h

theorem runStart_spec (s : WS) (big : Bool) (k p : Nat) :
    runStart s big k p ≤ p ∧ ∀ i, runStart s big k p ≤ i → i < p → wkind s big i = some k :=
  (scanDown_spec (f := runStart s big k) rfl (fun _ => rfl) p).imp_right fun h i a b => eq_of_beq (h i a b)

theorem runEnd_spec (s : WS) (big : Bool) (k f e : Nat) :
    e ≤ runEnd s big k f e ∧ ∀ i, e < i → i ≤ runEnd s big k f e → wkind s big i = some k := by
  obtain ⟨h1, h2, _⟩ := scanUp_spec (g := runEnd s big k) (fun _ => rfl) (fun _ _ => rfl) f e
  refine ⟨h1, fun i hi hir => ?_⟩
  obtain ⟨j, rfl⟩ := Nat.exists_eq_add_one.mpr (Nat.zero_lt_of_lt hi)
  exact eq_of_beq (h2 j (Nat.le_of_lt_succ hi) hir)

/-- **A word run** contains the position, lies inside the text and is of one kind: no line terminator is in it. -/
theorem wordRun_spec {s : WS} {big : Bool} {pos a b : Nat} (h : wordRun s big pos = some (a, b)) :
    a ≤ pos ∧ pos ≤ b ∧ b < s.len ∧ ∀ i, a ≤ i → i ≤ b → wkind s big i = wkind s big pos := by
  unfold wordRun at h
  split at h
  · cases h
  · next k hk =>
    obtain ⟨rfl, rfl⟩ := Prod.mk.inj (Option.some.inj h)
    have rs := runStart_spec s big k pos
    have re := runEnd_spec s big k (s.len - pos) pos
    have hall : ∀ i, runStart s big k pos ≤ i → i ≤ runEnd s big k (s.len - pos) pos → wkind s big i = some k := by
      intro i hi hib
      rcases Nat.lt_trichotomy i pos with hlt | rfl | hgt
      · exact rs.2 i hi hlt
      · exact hk
      · exact re.2 i hgt hib
    exact ⟨rs.1, re.1, wkind_lt (hall _ (Nat.le_trans rs.1 re.1) (Nat.le_refl _)), fun i a b => hk ▸ hall i a b⟩

theorem textObjWord_inner (s : WS) (cur : Nat) (big : Bool) : textObjWord s cur big false = wordRun s big cur := by
  unfold textObjWord
  cases wordRun s big cur <;> rfl

/-- The word objects extend the run `(st, en)` under the cursor, to a grapheme of the text. -/
theorem textObjWord_spec {s : WS} {cur : Nat} {big around : Bool} {a b : Nat}
    (h : textObjWord s cur big around = some (a, b)) :
    ∃ st en, wordRun s big cur = some (st, en) ∧ a ≤ st ∧ en ≤ b ∧ b < s.len := by
  revert h
  fun_cases textObjWord s cur big around <;> intro h <;> cases h
  -- cases 4, 6 (`some (st, e2)`): what follows the run is taken; `e2` ends the run at `en + 1`
  case case4 | case6 =>
    have := wordRun_spec ‹wordRun s big (_ + 1) = _›
    exact ⟨_, _, ‹_›, Nat.le_refl _, Nat.le_of_succ_le this.2.1, this.2.2.1⟩
  -- case 8 (`some (rs, en)`): the blanks before are taken; `rs` starts the run at `st - 1`
  case case8 =>
    exact ⟨_, _, ‹wordRun s big cur = _›,
      Nat.le_trans (wordRun_spec ‹wordRun s big (_ - 1) = _›).1 (Nat.sub_le _ _), Nat.le_refl _,
      (wordRun_spec ‹wordRun s big cur = _›).2.2.1⟩
  all_goals exact ⟨_, _, ‹_›, Nat.le_refl _, Nat.le_refl _, (wordRun_spec ‹_›).2.2.1⟩

/-- **`iw` / `iW`**: graphemes of the cursor's kind only, around the cursor, ending inside the text. -/
theorem iw_is_one_run (s : WS) (cur : Nat) (big : Bool) (a b : Nat) (h : textObjWord s cur big false = some (a, b)) :
    a ≤ cur ∧ cur ≤ b ∧ b < s.len ∧ ∀ i, a ≤ i → i ≤ b → wkind s big i = wkind s big cur :=
  wordRun_spec (textObjWord_inner s cur big ▸ h)

/-- **`iw` / `aw` / `iW` / `aW` contain the cursor** and both ends are graphemes of the text. -/
theorem textObjWord_contains_cursor (s : WS) (cur : Nat) (big around : Bool) (a b : Nat)
    (h : textObjWord s cur big around = some (a, b)) : a ≤ cur ∧ cur ≤ b ∧ b < s.len := by
  obtain ⟨st, en, hr, h1, h2, h3⟩ := textObjWord_spec h
  obtain ⟨c1, c2, _⟩ := wordRun_spec hr
  exact ⟨Nat.le_trans h1 c1, Nat.le_trans c2 h2, h3⟩

/-- **`aw` covers `iw`**: it starts no later and ends no earlier. -/
theorem aw_covers_iw (s : WS) (cur : Nat) (big : Bool) (a b c d : Nat)
    (ha : textObjWord s cur big true = some (a, b)) (hi : textObjWord s cur big false = some (c, d)) :
    a ≤ c ∧ d ≤ b := by
  obtain ⟨st, en, hr, h1, h2, _⟩ := textObjWord_spec ha
  obtain ⟨rfl, rfl⟩ := Prod.mk.inj (Option.some.inj (hr.symm.trans (textObjWord_inner s cur big ▸ hi)))
  exact ⟨h1, h2⟩

/-- `daw` on "foo bar baz" with the cursor in `bar` takes "bar " (fix 12116d5). -/
example : textObjWord ⟨[2, 2, 2, 1, 2, 2, 2, 1, 2, 2, 2, 4]⟩ 5 false true = some (4, 7) := by decide +kernel
/-- on the last word there are no blanks after it: the blanks before it are taken -/
example : textObjWord ⟨[2, 2, 2, 1, 2, 2, 2, 4]⟩ 5 false true = some (3, 6) := by decide +kernel
/-- but not the indent of the line -/
example : textObjWord ⟨[1, 1, 2, 2, 4]⟩ 2 false true = some (2, 3) := by decide +kernel
/-- `iw` on blanks is the blanks; a word does not run across a line terminator -/
example : textObjWord ⟨[2, 1, 1, 2, 4, 2]⟩ 1 false false = some (1, 2) := by decide +kernel
example : textObjWord ⟨[2, 2, 4, 2, 2]⟩ 1 false false = some (0, 1) := by decide +kernel
example : textObjWord ⟨[2, 4, 4, 2]⟩ 1 false false = none := by decide +kernel

end Vicut.Words
