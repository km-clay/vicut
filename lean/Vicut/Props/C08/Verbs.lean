/-
Frame theorems over every motion result (`MK`), register name and buffer: the motion engine only enters
through the range it produced. First `operator_range`, then the verbs in the order of `VerbK`; last, in
`LineEnd`, where `p` inserts and what `[n]r` does at the end of a line.
-/
import Vicut.Model.Verbs
import Vicut.Lemmas.Scans
import Vicut.Lemmas.Basics

namespace Vicut

theorem isNlAtGs_of_getElem? {gs : List Gr} {i : Nat} {g : Gr} (hg : gs[i]? = some g) : isNlAtGs gs i = isNl g := by
  rw [isNlAtGs, hg]

end Vicut

namespace Vicut.C08
open Vicut

theorem stopBeforeTerminator_spec (gs : List Gr) (s e : Nat) :
    stopBeforeTerminator gs s e = (s, e) ∨
      (stopBeforeTerminator gs s e = (s, e - 1) ∧ s < e ∧ isNlAtGs gs (e - 1) = true) := by
  unfold stopBeforeTerminator
  split
  · next h =>
    simp only [Bool.and_eq_true, decide_eq_true_eq] at h
    exact .inr ⟨rfl, h.1.1, h.1.2⟩
  · exact .inl rfl

/-- the buffer's final terminator is never taken, even alone on its line (fix 0954d9e) -/
example : stopBeforeTerminator [['a'], ['\n'], ['\n']] 2 3 = (2, 2) := by decide +kernel
example : stopBeforeTerminator [['a'], ['\n'], ['b']] 0 2 = (0, 1) := by decide +kernel
example : stopBeforeTerminator [['\n'], ['\n'], ['b']] 0 1 = (0, 1) := by decide +kernel

/-- A yank takes exactly the range of the motion. -/
theorem operatorRange_yank (lb : LB) (mk : MK) :
    operatorRange .yank lb mk = (rangeFromMotion lb mk).map (fun r => (r.1, r.2, mk.linewise)) := by
  unfold operatorRange
  cases rangeFromMotion lb mk with
  | none => rfl
  | some r => simp [changeEnd, OpK.isChange, OpK.isDelete]

/-- A change takes the range of the motion, except that a linewise change leaves the last terminator. -/
theorem operatorRange_change (lb : LB) (mk : MK) (s e0 : Nat) (h : rangeFromMotion lb mk = some (s, e0)) :
    ∃ e, operatorRange .change lb mk = some (s, e, mk.linewise) ∧
      (e = e0 ∨ (e = e0 - 1 ∧ mk.linewise = true ∧ s < e0 ∧ isNlAtGs lb.gs (e0 - 1) = true)) := by
  refine ⟨changeEnd .change mk.linewise lb.gs s e0, by simp [operatorRange, h, OpK.isDelete], ?_⟩
  unfold changeEnd
  split
  · next hc =>
    simp only [Bool.and_eq_true, decide_eq_true_eq] at hc
    exact .inr ⟨rfl, hc.1.1.1, hc.1.2, hc.2⟩
  · exact .inl rfl

theorem blanksBack_le (gs : List Gr) (i : Nat) : blanksBack gs i ≤ i :=
  (scanDown_spec (f := blanksBack gs) rfl (fun _ => rfl) i).1

theorem blanksFwd_ge (gs : List Gr) (f i : Nat) : i ≤ blanksFwd gs f i :=
  (scanUp_spec (g := blanksFwd gs) (fun _ => rfl) (fun _ _ => rfl) f i).1

theorem promoteLines_covers (gs : List Gr) (s e : Nat) (lw : Bool) (he : e ≤ gs.length) :
    (promoteLines gs s e lw).1 ≤ s ∧ e ≤ (promoteLines gs s e lw).2.1 := by
  unfold promoteLines
  split
  · exact ⟨blanksBack_le gs s, Nat.le_min.mpr ⟨Nat.le_succ_of_le (blanksFwd_ge gs _ e), he⟩⟩
  · exact ⟨Nat.le_refl s, Nat.le_refl e⟩

/-- A delete takes at least the range of the motion: promotion to whole lines only widens it. -/
theorem operatorRange_delete_covers (lb : LB) (mk : MK) (s e0 a b : Nat) (lw : Bool)
    (h : rangeFromMotion lb mk = some (s, e0)) (he : e0 ≤ lb.max)
    (hr : operatorRange .delete lb mk = some (a, b, lw)) : a ≤ s ∧ e0 ≤ b := by
  unfold operatorRange at hr
  simp only [h, changeEnd, OpK.isChange, Bool.and_false, Bool.false_and, Bool.false_eq_true, ↓reduceIte] at hr
  split at hr
  · have := promoteLines_covers lb.gs s e0 mk.linewise he
    rwa [Option.some.inj hr] at this
  · cases hr
    exact ⟨Nat.le_refl s, Nat.le_refl e0⟩

theorem spansLines_eq_false (gs : List Gr) (s e : Nat) (h : ∀ i, s ≤ i → i < e → isNlAtGs gs i = false) :
    spansLines gs s e = false := by
  rw [spansLines, List.any_eq_false]
  exact fun k hk => Bool.eq_false_iff.mp (h (s + k) (Nat.le_add_right s k) (Nat.add_lt_of_lt_sub' (List.mem_range.mp hk)))

theorem rangeFromMotion_on (lb : LB) (p : Nat) :
    rangeFromMotion lb (.on p) = some (min lb.cur p, max lb.cur p) ∨
      (rangeFromMotion lb (.on p) = some (min lb.cur p, max lb.cur p - 1) ∧ min lb.cur p < max lb.cur p ∧
        isNlAtGs lb.gs (max lb.cur p - 1) = true) := by
  rw [rangeFromMotion, ordered_eq]
  split
  · exact (stopBeforeTerminator_spec ..).imp (congrArg some) (.imp_left (congrArg some))
  · exact .inl rfl

theorem operatorRange_on (op : OpK) (lb : LB) (p : Nat)
    (hclear : ∀ i, min lb.cur p ≤ i → i < max lb.cur p → isNlAtGs lb.gs i = false) :
    operatorRange op lb (.on p) = some (min lb.cur p, max lb.cur p, false) := by
  have hr := (rangeFromMotion_on lb p).resolve_right fun ⟨_, hlt, hnl⟩ =>
    Bool.false_ne_true ((hclear _ (Nat.le_sub_one_of_lt hlt) (Nat.sub_one_lt_of_lt hlt)).symm.trans hnl)
  simp only [operatorRange, hr, MK.linewise, changeEnd, Bool.false_and, Bool.false_eq_true, ↓reduceIte,
    spansLines_eq_false lb.gs _ _ hclear, Bool.and_false]

/-- The motions `get_register_content` hands to `operator_range`: all but `Line`, `LineRange`, `BlockRange`. -/
def MK.spanlike : MK → Bool
  | .blockRange _ => false
  | .line _ => false
  | .lineRange _ _ => false
  | _ => true

theorem drainGs_ok {gs : List Gr} {s e : Nat} (hs : s ≤ e) (he : e ≤ gs.length) :
    drainGs gs s e = .ok (((gs.drop s).take (e - s)).flatten, gs.take s ++ gs.drop e) := by
  rw [drainGs, Nat.min_eq_left he, Nat.min_eq_left hs]

theorem sliceOr_ok {gs : List Gr} {s e : Nat} (hs : s ≤ e) (he : e ≤ gs.length) :
    sliceOr gs s e = ((gs.drop s).take (e - s)).flatten := by
  unfold sliceOr sliceGs
  split
  · rfl
  · -- `s = gs.length` is not sliceable, but then both sides are empty
    rw [List.drop_of_length_le (by omega), List.take_nil]; rfl

theorem getRegisterContent_span {op : OpK} {lb : LB} {mk : MK} {s e : Nat} {lw : Bool}
    (hk : MK.spanlike mk = true) (hr : operatorRange op lb mk = some (s, e, lw)) (hs : s ≤ e) (he : e ≤ lb.gs.length) :
    getRegisterContent op lb mk =
      .ok (if lw then .line ((lb.gs.drop s).take (e - s)).flatten else .span ((lb.gs.drop s).take (e - s)).flatten,
           if op.drains then lb.gs.take s ++ lb.gs.drop e else lb.gs) := by
  unfold getRegisterContent
  split
  · cases hk
  · cases hk
  · cases hk
  · rw [hr]
    cases op.drains
    · simp only [sliceOr_ok hs he, Bool.false_eq_true, ↓reduceIte]
    · simp only [drainGs_ok hs he, ↓reduceIte]; rfl

theorem isNull_of_operatorRange {op : OpK} {lb : LB} {mk : MK} {r : Nat × Nat × Bool}
    (hr : operatorRange op lb mk = some r) : mk.isNull = false := by
  fun_cases MK.isNull mk
  · cases hr
  · rfl

/-- **Delete** removes exactly the span `operator_range` hands out and puts exactly the removed text in the
register (as lines when the span is linewise). -/
theorem delete_frame (lb : LB) (mk : MK) (reg : RegName) (regs : Regs) (s e : Nat) (lw : Bool)
    (hk : MK.spanlike mk = true) (hr : operatorRange .delete lb mk = some (s, e, lw)) (hs : s ≤ e) (he : e ≤ lb.gs.length) :
    execVerbText .delete mk reg lb regs
      = .ok ⟨(lb.gs.take s).flatten ++ (lb.gs.drop e).flatten,
             writeReg regs reg (if lw then .line ((lb.gs.drop s).take (e - s)).flatten else .span ((lb.gs.drop s).take (e - s)).flatten)⟩ := by
  rw [execVerbText, isNull_of_operatorRange hr, getRegisterContent_span hk hr hs he, ← List.flatten_append]
  rfl

/-- **Change** removes exactly its own span (for a linewise motion: the lines without the last terminator). -/
theorem change_frame (lb : LB) (mk : MK) (reg : RegName) (regs : Regs) (s e : Nat) (lw : Bool)
    (hk : MK.spanlike mk = true) (hr : operatorRange .change lb mk = some (s, e, lw)) (hs : s ≤ e) (he : e ≤ lb.gs.length) :
    execVerbText .change mk reg lb regs
      = .ok ⟨(lb.gs.take s).flatten ++ (lb.gs.drop e).flatten,
             writeReg regs reg (if lw then .line ((lb.gs.drop s).take (e - s)).flatten else .span ((lb.gs.drop s).take (e - s)).flatten)⟩ := by
  rw [execVerbText, isNull_of_operatorRange hr, getRegisterContent_span hk hr hs he, ← List.flatten_append]
  rfl

/-- **Yank**: the text is untouched and the register receives exactly the covered text. -/
theorem yank_frame (lb : LB) (mk : MK) (reg : RegName) (regs : Regs) (s e : Nat) (lw : Bool)
    (hk : MK.spanlike mk = true) (hr : operatorRange .yank lb mk = some (s, e, lw)) (hs : s ≤ e)
    (he : e ≤ lb.gs.length) (hlt : s < lb.gs.length) :
    execVerbText .yank mk reg lb regs
      = .ok ⟨lb.gs.flatten, writeReg regs reg (if lw then .line ((lb.gs.drop s).take (e - s)).flatten else .span ((lb.gs.drop s).take (e - s)).flatten)⟩ := by
  rw [execVerbText, isNull_of_operatorRange hr, getRegisterContent_span hk hr hs he]
  rfl

/-- A yank never changes the text, whatever the motion. -/
theorem yank_keeps_text (lb : LB) (mk : MK) (reg : RegName) (regs : Regs) (out : VOut)
    (h : execVerbText .yank mk reg lb regs = .ok out) : out.text = lb.gs.flatten := by
  rw [execVerbText] at h
  split at h
  · cases h; rfl
  · cases hg : getRegisterContent .yank lb mk <;> rw [hg] at h <;> cases h
    rfl

/-- **A delete, change or yank whose motion failed changes neither the text nor any register.** -/
theorem failed_motion_touches_nothing (lb : LB) (reg : RegName) (regs : Regs) :
    execVerbText .delete .null reg lb regs = .ok ⟨lb.gs.flatten, regs⟩ ∧
    execVerbText .change .null reg lb regs = .ok ⟨lb.gs.flatten, regs⟩ ∧
    execVerbText .yank .null reg lb regs = .ok ⟨lb.gs.flatten, regs⟩ := ⟨rfl, rfl, rfl⟩

example : execVerbText .delete (.exclusive 1 3) {} ⟨[['a'], ['é'], ['c'], ['d']], 1, true⟩ []
    = .ok ⟨['a', 'd'], [(none, .span ['é', 'c'])]⟩ := by rfl

theorem caseGr_of_not_letter (op : CaseOp) (g : Gr) (h : isAsciiLetterGr g = false) : caseGr op g = g := by
  unfold caseGr
  split
  · simp only [isAsciiLetterGr, Bool.or_eq_false_iff] at h
    cases op <;> simp [toAsciiUpper, toAsciiLower, h.1, h.2]
  · rfl

theorem caseGr_length (op : CaseOp) (g : Gr) : (caseGr op g).length = g.length := by
  fun_cases caseGr op g <;> rfl

/-- A case operator changes a grapheme only if it is a single ASCII letter. -/
theorem caseGr_changes_only_letters (op : CaseOp) (g : Gr) (h : caseGr op g ≠ g) :
    ∃ c, g = [c] ∧ (isAsciiLower c = true ∨ isAsciiUpper c = true) := by
  cases hl : isAsciiLetterGr g
  · exact absurd (caseGr_of_not_letter op g hl) h
  · unfold isAsciiLetterGr at hl
    split at hl
    · exact ⟨_, rfl, by simpa using hl⟩
    · cases hl

theorem mapRangeGs_length (f : Gr → Gr) (s e : Nat) (gs : List Gr) : (mapRangeGs f s e gs).length = gs.length := by
  simp [mapRangeGs]

theorem mapRangeGs_getElem? (f : Gr → Gr) (s e : Nat) (gs : List Gr) (i : Nat) :
    (mapRangeGs f s e gs)[i]? = gs[i]?.map (fun g => if s ≤ i ∧ i < e then f g else g) := by
  unfold mapRangeGs
  rw [List.getElem?_map, List.zip_eq_zipWith, List.getElem?_zipWith']
  cases hg : gs[i]? with
  | none => cases (List.range gs.length)[i]? <;> rfl
  | some g => rw [List.getElem?_range (List.getElem?_eq_some_iff.mp hg).1]; rfl

/-- **`g~ gu gU`** leave the graphemes outside the span untouched. -/
theorem case_frame_outside (op : CaseOp) (s e : Nat) (gs : List Gr) (i : Nat) (hi : i < gs.length)
    (ho : i < s ∨ e ≤ i) : (mapRangeGs (caseGr op) s e gs)[i]? = some gs[i] := by
  rw [mapRangeGs_getElem?, List.getElem?_eq_getElem hi, Option.map_some, if_neg (by omega)]

example : (mapRangeGs (caseGr .upper) 0 2 [['a'], ['é'], ['c']]) = [['A'], ['é'], ['c']] := by decide +kernel

theorem isAsciiLower_iff (c : Char) : isAsciiLower c = true ↔ 97 ≤ c.toNat ∧ c.toNat ≤ 122 := by
  simp only [isAsciiLower, decide_eq_true_eq, Char.le_def, UInt32.le_iff_toNat_le]
  exact Iff.rfl

theorem isAsciiUpper_iff (c : Char) : isAsciiUpper c = true ↔ 65 ≤ c.toNat ∧ c.toNat ≤ 90 := by
  simp only [isAsciiUpper, decide_eq_true_eq, Char.le_def, UInt32.le_iff_toNat_le]
  exact Iff.rfl

/-- Two rotations by 13 inside a block of 26 code points cancel: the image is in the block again, and
`x + 13 + 13 = x` modulo 26. -/
theorem rot13Char_block (b : Nat) (hb : b + 25 < 0xd800)
    (hrot : ∀ d : Char, b ≤ d.toNat ∧ d.toNat ≤ b + 25 → rot13Char d = Char.ofNat ((d.toNat - b + 13) % 26 + b))
    (c : Char) (hc : b ≤ c.toNat ∧ c.toNat ≤ b + 25) : rot13Char (rot13Char c) = c := by
  have hle : (c.toNat - b + 13) % 26 + b ≤ b + 25 :=
    Nat.add_comm b 25 ▸ Nat.add_le_add_right (Nat.le_of_lt_succ (Nat.mod_lt _ (by decide))) b
  have hn := Char.toNat_ofNat (Nat.lt_of_le_of_lt hle hb)
  rw [hrot c hc, hrot _ (by rw [hn]; exact ⟨Nat.le_add_left .., hle⟩), hn, Nat.add_sub_cancel, Nat.mod_add_mod,
    Nat.add_assoc, Nat.add_mod_right, Nat.mod_eq_of_lt (by omega), Nat.sub_add_cancel hc.1, Char.ofNat_toNat]

theorem rot13_non_letter (c : Char) (hl : isAsciiLower c = false) (hu : isAsciiUpper c = false) : rot13Char c = c := by
  simp [rot13Char, hl, hu]

theorem rot13Char_involutive (c : Char) : rot13Char (rot13Char c) = c := by
  cases hl : isAsciiLower c
  · cases hu : isAsciiUpper c
    · rw [rot13_non_letter c hl hu, rot13_non_letter c hl hu]
    · refine rot13Char_block 65 (by decide) (fun d h => ?_) c ((isAsciiUpper_iff c).mp hu)
      exact (if_neg fun hl => by have := ((isAsciiLower_iff d).mp hl).1; omega).trans (if_pos ((isAsciiUpper_iff d).mpr h))
  · exact rot13Char_block 97 (by decide) (fun d h => if_pos ((isAsciiLower_iff d).mpr h)) c ((isAsciiLower_iff c).mp hl)

theorem rot13_involution_ascii : ∀ n : Fin 128, rot13Char (rot13Char (Char.ofNat n.val)) = Char.ofNat n.val :=
  fun _ => rot13Char_involutive _

/-- **`g?`**: the text outside the span is preserved; inside, the same number of characters. -/
theorem rot13_frame (lb : LB) (mk : MK) (reg : RegName) (regs : Regs) (s e : Nat)
    (hr : rangeFromMotion lb mk = some (s, e)) (hs : s ≤ e) (he : e ≤ lb.gs.length) (hlt : s < lb.gs.length) :
    execVerbText .rot13 mk reg lb regs
      = .ok ⟨(lb.gs.take s).flatten ++ (((lb.gs.drop s).take (e - s)).flatten.map rot13Char) ++ (lb.gs.drop e).flatten, regs⟩ := by
  have h2 : (if e < lb.gs.length then e else lb.gs.length) = e :=
    ite_eq_left_iff.mpr fun h => Nat.le_antisymm (Nat.not_lt.mp h) he
  simp only [execVerbText, hr, Nat.min_eq_left (Nat.le_of_lt hlt), h2, sliceOr_ok hs he, if_neg (Nat.not_lt.mpr hs)]

example : rot13Char 'a' = 'n' ∧ rot13Char 'Z' = 'M' ∧ rot13Char 'é' = 'é' := by decide +kernel

/-- **`p` / `P`** with a valid register name and a charwise register insert exactly the register's text at one
grapheme boundary; no register changes. -/
theorem put_span_frame (lb : LB) (mk : MK) (reg : RegName) (regs : Regs) (after : Bool) (t : Str)
    (hv : reg.valid = true) (ht : regs.get reg.name = .span t) :
    ∃ i, i ≤ lb.gs.length ∧
      execVerbText (.putSpan after) mk reg lb regs
        = .ok ⟨(lb.gs.take i).flatten ++ t ++ (lb.gs.drop i).flatten, regs⟩ := by
  refine ⟨min (putIdx lb after) lb.gs.length, Nat.min_le_right _ _, ?_⟩
  rw [← List.take_eq_take_min, ← List.drop_eq_drop_min, execVerbText, hv, ht]
  rfl

/-- **Typing a character** inserts exactly that character at the cursor. -/
theorem insert_char_frame (lb : LB) (mk : MK) (reg : RegName) (regs : Regs) (c : Char) :
    execVerbText (.insertChar c) mk reg lb regs
      = .ok ⟨(lb.gs.take lb.cur).flatten ++ [c] ++ (lb.gs.drop lb.cur).flatten, regs⟩ := rfl

/-- A fold appending the typed characters to the text before the cursor gives `before ++ typed`; that each step
is `insert_char_frame`'s is not part of the statement. -/
theorem insert_session_adds_exactly (before after typed : Str) :
    typed.foldl (fun (acc : Str × Str) c => (acc.1 ++ [c], acc.2)) (before, after)
      = (before ++ typed, after) := by
  induction typed generalizing before with
  | nil => simp
  | cons c cs ih => simp [ih]

/-- **Typing over a character** (`R`-mode typing, visual `r`) replaces exactly the grapheme under the cursor,
when that is not a line terminator. -/
theorem replace_char_frame (lb : LB) (mk : MK) (reg : RegName) (regs : Regs) (c : Char) (g : Gr)
    (hg : lb.gs[lb.cur]? = some g) (hn : isNl g = false) :
    execVerbText (.replaceChar c) mk reg lb regs
      = .ok ⟨(lb.gs.take lb.cur).flatten ++ [c] ++ (lb.gs.drop (lb.cur + 1)).flatten, regs⟩ := by
  simp only [execVerbText, hg, hn, Bool.false_eq_true, ↓reduceIte]

/-- **`o` / `O`** add exactly one line terminator at a grapheme boundary; no register changes. -/
theorem open_line_frame (lb : LB) (mk : MK) (reg : RegName) (regs : Regs) (after : Bool) :
    ∃ i, execVerbText (.openLine after) mk reg lb regs
        = .ok ⟨(lb.gs.take i).flatten ++ ['\n'] ++ (lb.gs.drop i).flatten, regs⟩ :=
  ⟨openLineIdx after lb, rfl⟩

/-- `O` on the first line opens at the very start, `o` on a terminated one-line buffer after the terminator
(fix 1a27068). -/
example : execVerbText (.openLine false) .null {} ⟨[['a'], ['\n'], ['b'], ['\n']], 0, false⟩ []
    = .ok ⟨['\n', 'a', '\n', 'b', '\n'], []⟩ := by rfl
example : execVerbText (.openLine true) .null {} ⟨[['a'], ['\n']], 0, false⟩ []
    = .ok ⟨['a', '\n', '\n'], []⟩ := by rfl
example : openLineIdx true ⟨[['a'], ['\n']], 0, false⟩ = 2 := by decide +kernel

/-- **One `J`** removes a stretch that starts with a line terminator and puts at most one space in its place; the
text before and after is preserved and the cursor goes to the join. -/
theorem join_frame (lb lb' : LB) (h : joinOnce lb = some lb') :
    ∃ i j, i < j ∧ isNlAtGs lb.gs i = true ∧ lb'.cur = i ∧
      (lb'.gs = lb.gs.take i ++ lb.gs.drop j ∨ lb'.gs = lb.gs.take i ++ [[' ']] ++ lb.gs.drop j) := by
  revert h
  fun_cases joinOnce lb with
  | case1 | case2 => nofun
  | case3 st en _ hc =>
    intro h
    cases h
    simp only [Bool.or_eq_true, beq_iff_eq, not_or, Bool.not_eq_true', Bool.not_eq_false] at hc
    have hge := blanksFwd_ge lb.gs (lb.gs.length - en + 1) en
    refine ⟨en - 1, blanksFwd lb.gs (lb.gs.length - en + 1) en, by omega, hc.2, rfl, ?_⟩
    dsimp only
    split
    · exact .inr rfl
    · exact .inl (by rw [List.append_nil])

/-- `3J` with the blanks leading a line dropped; no space after a blank, before `)` or next to an empty line;
nothing to join on the last line (fix 708f7e5). -/
example : (joinLines ⟨[['a'], ['\n'], [' '], ['b'], ['\n'], ['c'], ['\n']], 0, true⟩ 2).gs.flatten = ['a', ' ', 'b', ' ', 'c', '\n'] := by decide +kernel
example : (joinLines ⟨[['a'], [' '], ['\n'], [')'], ['\n']], 0, true⟩ 1).gs.flatten = ['a', ' ', ')', '\n'] := by decide +kernel
example : (joinLines ⟨[['a'], ['\n'], ['\n'], ['b'], ['\n']], 0, true⟩ 1).gs.flatten = ['a', '\n', 'b', '\n'] := by decide +kernel
example : joinOnce ⟨[['a'], ['\n']], 0, true⟩ = none := by decide +kernel

theorem toggleAt_length (gs : List Gr) (pos : Nat) (g : Gr) : (toggleAt gs pos g).length = gs.length := by
  unfold toggleAt
  split
  · exact List.length_set
  · rfl

theorem toggleAt_ne {gs : List Gr} {pos : Nat} {g : Gr} {i : Nat} (h : i ≠ pos) : (toggleAt gs pos g)[i]? = gs[i]? := by
  unfold toggleAt
  split
  · exact List.getElem?_set_ne (Ne.symm h)
  · rfl

theorem toggleAt_at {gs : List Gr} {pos : Nat} {g : Gr} (hg : gs[pos]? = some g) :
    (toggleAt gs pos g)[pos]? = some g ∨ (isAsciiLetterGr g = true ∧ (toggleAt gs pos g)[pos]? = some (caseGr .toggle g)) := by
  unfold toggleAt
  split
  · next hl => exact .inr ⟨hl, List.getElem?_set_self (List.getElem?_eq_some_iff.mp hg).1⟩
  · exact .inl hg

/- The cases of `toggleInplaceGo.induct`: three ways to stop without touching anything, one last `toggleAt`
(`case4`), a `toggleAt` and on to the next position (`case5`). -/

theorem toggleInplaceGo_length (n pos : Nat) (gs : List Gr) : (toggleInplaceGo n pos gs).length = gs.length := by
  fun_induction toggleInplaceGo n pos gs with
  | case1 | case2 | case3 => rfl
  | case4 => exact toggleAt_length ..
  | case5 _ _ _ _ _ _ _ ih => rw [ih, toggleAt_length]

theorem toggleInplaceGo_outside (n pos : Nat) (gs : List Gr) (i : Nat) (ho : i < pos ∨ pos + n ≤ i) :
    (toggleInplaceGo n pos gs)[i]? = gs[i]? := by
  fun_induction toggleInplaceGo n pos gs with
  | case1 | case2 | case3 => rfl
  | case4 => exact toggleAt_ne (by omega)
  | case5 _ _ _ _ _ _ _ ih => rw [ih (by omega), toggleAt_ne (by omega)]

/-- **`~` (count n)**: a grapheme is kept or is an ASCII letter with its case toggled. -/
theorem toggleInplaceGo_inside (n pos : Nat) (gs : List Gr) (i : Nat) (g : Gr) (hg : gs[i]? = some g) :
    (toggleInplaceGo n pos gs)[i]? = some g ∨
      (isAsciiLetterGr g = true ∧ (toggleInplaceGo n pos gs)[i]? = some (caseGr .toggle g)) := by
  fun_induction toggleInplaceGo n pos gs with
  | case1 | case2 | case3 => exact .inl hg
  | case4 k pos gs g' hg' =>
    by_cases hip : i = pos
    · subst hip; cases hg.symm.trans hg'; exact toggleAt_at hg
    · exact .inl ((toggleAt_ne hip).trans hg)
  | case5 k pos gs g' hg' _ _ ih =>
    by_cases hip : i = pos
    · subst hip; cases hg.symm.trans hg'
      -- the rest of the walk starts right of `i`
      rw [toggleInplaceGo_outside k (i + 1) _ i (by omega)]
      exact toggleAt_at hg
    · exact ih ((toggleAt_ne hip).trans hg)

/-- **`~` never touches a line terminator** and never works past one. -/
theorem toggleInplaceGo_stops_at_terminator (n pos : Nat) (gs : List Gr) (j : Nat) (hj : pos ≤ j)
    (hnl : isNlAtGs gs j = true) (i : Nat) (hi : j ≤ i) : (toggleInplaceGo n pos gs)[i]? = gs[i]? := by
  fun_induction toggleInplaceGo n pos gs with
  | case1 | case2 | case3 => rfl
  | case4 k pos gs g hg hnot =>
    have hlt : pos < j := Nat.lt_of_le_of_ne hj fun h => hnot ((isNlAtGs_of_getElem? hg).symm.trans (h ▸ hnl))
    exact toggleAt_ne (Nat.ne_of_gt (Nat.lt_of_lt_of_le hlt hi))
  | case5 k pos gs g hg hnot _ ih =>
    have hlt : pos < j := Nat.lt_of_le_of_ne hj fun h => hnot ((isNlAtGs_of_getElem? hg).symm.trans (h ▸ hnl))
    rw [ih hlt (by rwa [isNlAtGs, toggleAt_ne (Nat.ne_of_gt hlt)]),
      toggleAt_ne (Nat.ne_of_gt (Nat.lt_of_lt_of_le hlt hi))]

/-- One `replace_at` on a grapheme that is not a newline: that grapheme becomes `c`, the rest is unchanged. -/
theorem replaceAtGs_frame (gs : List Gr) (pos : Nat) (c : Char) (g : Gr) (hg : gs[pos]? = some g) (hn : isNl g = false) :
    replaceAtGs gs pos c = gs.take pos ++ [[c]] ++ gs.drop (pos + 1) := by
  simp only [replaceAtGs, hg, hn, Bool.false_eq_true, ↓reduceIte, List.set_eq_take_append_cons_drop,
    (List.getElem?_eq_some_iff.mp hg).1, List.append_assoc, List.singleton_append]

theorem replaceAtGs_before (gs : List Gr) (pos : Nat) (c : Char) (hp : pos ≤ gs.length) :
    pos + 1 ≤ (replaceAtGs gs pos c).length ∧ ∀ i, i < pos → (replaceAtGs gs pos c)[i]? = gs[i]? := by
  fun_cases replaceAtGs gs pos c with
  | case1 =>
    exact ⟨by rw [List.length_append]; exact Nat.succ_le_succ hp, fun i hi => List.getElem?_append_left (Nat.lt_of_lt_of_le hi hp)⟩
  | case2 =>
    have hl : (gs.take pos).length = pos := List.length_take_of_le hp
    rw [List.append_assoc, List.length_append, hl]
    exact ⟨Nat.add_le_add_left (Nat.succ_pos _) pos,
      fun i hi => by rw [List.getElem?_append_left (hl.symm ▸ hi), List.getElem?_take_of_lt hi]⟩
  | case3 g hg =>
    exact ⟨by rw [List.length_set]; exact (List.getElem?_eq_some_iff.mp hg).1, fun i hi => List.getElem?_set_ne (Nat.ne_of_gt hi)⟩

/-- **`r<c>` (count n)** never touches text before the cursor (the cursor is always inside `0..len`). -/
theorem replaceInplaceGo_before (excl : Bool) (c : Char) (n pos : Nat) (gs : List Gr) (i : Nat) (hi : i < pos)
    (hp : pos ≤ gs.length) :
    (replaceInplaceGo excl c n pos gs)[i]? = gs[i]? := by
  fun_induction replaceInplaceGo excl c n pos gs with
  | case1 => rfl
  | case2 k pos gs _ => exact (replaceAtGs_before gs pos c hp).2 i hi
  | case3 k pos gs _ ih =>
    obtain ⟨hlen, hbefore⟩ := replaceAtGs_before gs pos c hp
    rw [ih (by omega) hlen, hbefore i hi]

end Vicut.C08

namespace Vicut.LineEnd
open Vicut

/-- **`p` on an empty line (or in an empty buffer) inserts where the cursor is**, otherwise right after
the cursor grapheme; `P` always inserts at the cursor. -/
theorem putIdx_spec (lb : LB) :
    putIdx lb false = lb.cur ∧
    (endsLineAt lb.gs lb.cur = true → putIdx lb true = lb.cur) ∧
    (endsLineAt lb.gs lb.cur = false → putIdx lb true = lb.cur + 1) := by
  refine ⟨by simp [putIdx], ?_, ?_⟩ <;> intro h <;> simp [putIdx, h]

/-- `p` never inserts after a line terminator the cursor is on: the put text stays on the cursor's line. -/
theorem put_after_stays_on_line (lb : LB) (h : putIdx lb true = lb.cur + 1) : isNlAtGs lb.gs lb.cur = false := by
  cases he : endsLineAt lb.gs lb.cur
  · unfold endsLineAt at he
    split at he
    · cases he
    · next g hg => exact (isNlAtGs_of_getElem? hg).trans he
  · have := (putIdx_spec lb).2.1 he
    omega

/-- **`[n]r<c>` with fewer than `n` graphemes left on the line changes nothing.** -/
theorem replace_past_line_end_is_noop (lb : LB) (mk : MK) (reg : RegName) (regs : Regs) (c : Char) (n : Nat)
    (h : n > leftOnLine lb.gs (lb.gs.length - lb.cur) lb.cur) :
    execVerbText (.replaceInplace c n) mk reg lb regs = .ok ⟨lb.gs.flatten, regs⟩ := by
  rw [execVerbText, if_pos h]

/-- `left_on_line`: the graphemes it counts are all on the line (none is a terminator). -/
theorem leftOnLine_spec (gs : List Gr) (f i : Nat) :
    ∀ k, k < leftOnLine gs f i → isNlAtGs gs (i + k) = false ∧ i + k < gs.length := by
  fun_induction leftOnLine gs f i with
  | case1 | case2 | case3 => nofun
  | case4 f i g hg hnl ih =>
    intro k hk
    cases k with
    | zero => exact ⟨(isNlAtGs_of_getElem? hg).trans (Bool.eq_false_iff.mpr hnl), (List.getElem?_eq_some_iff.mp hg).1⟩
    | succ k => exact Nat.add_right_comm i 1 k ▸ ih k (Nat.lt_of_succ_lt_succ hk)

example : leftOnLine [['a'], ['b'], ['\n'], ['c']] 4 0 = 2 := by decide +kernel
example : putIdx ⟨[['a'], ['\n'], ['\n'], ['b']], 2, true⟩ true = 2 := by decide +kernel
example : putIdx ⟨[['a'], ['\n'], ['\n'], ['b']], 0, true⟩ true = 1 := by decide +kernel

end Vicut.LineEnd
