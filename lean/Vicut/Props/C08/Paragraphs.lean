import Vicut.Model.Motions
import Vicut.Lemmas.Scans

/-! The parts of `Model/Motions.lean` over line numbers and sentence kinds instead of graphemes:
the paragraph motions `}` `{`, the paragraph objects `ip` `ap`, the sentence motions `)` `(`. -/
namespace Vicut.Paragraph
open Vicut

/-- **One `}` / `{` step** stays between the edges, never turns round, and with more fuel than there are lines ahead
stops on an empty line or at the edge it runs towards. -/
theorem paraLoop_spec {gs : List Gr} {last : Nat} {fwd : Bool} {left f curr : Nat} {ds first : Bool} {r : Nat}
    (hc : curr ≤ last) (h : paraLoop gs last fwd left f curr ds first = some r) :
    r ≤ last ∧ (fwd = true → curr ≤ r) ∧ (fwd = false → r ≤ curr) ∧
    ((if fwd then last - curr else curr) < f →
      lineEmpty gs r = true ∨ (fwd = true ∧ r = last) ∨ (fwd = false ∧ r = 0)) := by
  fun_induction paraLoop gs last fwd left f curr ds first
  case case3 => cases h
  case case5 f curr _ _ _ hedge ih =>
    -- not at the edge it runs towards: one line on, one line less ahead
    cases fwd
    · have h0 : curr ≠ 0 := by simpa using hedge
      obtain ⟨a, _, c, d⟩ := ih (Nat.le_trans (Nat.sub_le _ _) hc) h
      exact ⟨a, nofun, fun _ => Nat.le_trans (c rfl) (Nat.sub_le _ _),
        fun (hf : curr < f + 1) => d (Nat.sub_one_lt_of_le (Nat.pos_of_ne_zero h0) (Nat.le_of_lt_succ hf))⟩
    · have h0 : curr ≠ last := by simpa using hedge
      obtain ⟨a, b, _, d⟩ := ih (Nat.lt_of_le_of_ne hc h0) h
      exact ⟨a, fun _ => Nat.le_of_succ_le (b rfl), nofun,
        fun (hf : last - curr < f + 1) => d (Nat.sub_add_eq last curr 1 ▸
          Nat.sub_one_lt_of_le (Nat.sub_pos_of_lt (Nat.lt_of_le_of_ne hc h0)) (Nat.le_of_lt_succ hf))⟩
  -- the loop stops where it is: out of fuel, on an empty line, at the edge
  all_goals
    obtain rfl : _ = r := Option.some.inj h
    refine ⟨hc, fun _ => Nat.le_refl _, fun _ => Nat.le_refl _, fun hf => ?_⟩
  case case1 => exact absurd hf (Nat.not_lt_zero _)
  case case2 hstop => exact .inl (Bool.and_eq_true_iff.mp hstop).2
  case case4 hedge _ => exact .inr (by simpa using hedge)

/-- **`}` never goes up and `{` never goes down**, however many steps, and the line reached exists. -/
theorem paraGo_range (gs : List Gr) (last : Nat) (fwd : Bool) (count curr r : Nat) (hc : curr ≤ last)
    (h : paraGo gs last fwd count curr = some r) :
    r ≤ last ∧ (fwd = true → curr ≤ r) ∧ (fwd = false → r ≤ curr) := by
  fun_induction paraGo gs last fwd count curr
  case case1 => cases h; exact ⟨hc, fun _ => Nat.le_refl _, fun _ => Nat.le_refl _⟩
  case case2 => cases h
  case case3 c hl ih =>
    obtain ⟨a1, b1, c1, _⟩ := paraLoop_spec hc hl
    obtain ⟨a2, b2, c2⟩ := ih a1 h
    exact ⟨a2, fun hf => Nat.le_trans (b1 hf) (b2 hf), fun hf => Nat.le_trans (c2 hf) (c1 hf)⟩

/-- A step that stops before the edge stops on an empty line. -/
theorem paraLoop_stops_on_empty (gs : List Gr) (last : Nat) (fwd : Bool) (left f curr : Nat) (ds first : Bool) (r : Nat)
    (h : paraLoop gs last fwd left f curr ds first = some r) (hf : f > last + 1 - (if fwd then curr else last - curr))
    (hc : curr ≤ last) (hne : (fwd = true → r ≠ last) ∧ (fwd = false → r ≠ 0)) : lineEmpty gs r = true := by
  -- `hf` asks for one unit of fuel more than there are lines ahead
  have hf' : (if fwd then last - curr else curr) < f := by
    cases fwd
    · exact Nat.lt_of_le_of_lt (Nat.le_sub_of_add_le (Nat.le_trans (Nat.le_of_eq (Nat.add_sub_cancel' hc)) (Nat.le_succ last))) hf
    · exact Nat.lt_of_le_of_lt (Nat.sub_le_sub_right (Nat.le_succ last) curr) hf
  rcases (paraLoop_spec hc h).2.2.2 hf' with he | ⟨h1, h2⟩ | ⟨h1, h2⟩
  · exact he
  · exact absurd h2 (hne.1 h1)
  · exact absurd h2 (hne.2 h1)

/-- "aa", "", "bb", "cc", "", "dd": `}` from the first line stops on the empty line 1, twice on line 4, three
times on the last line, and four times fails; `{` from line 3 stops on line 1. -/
example : paraGo [['a'], ['a'], ['\n'], ['\n'], ['b'], ['b'], ['\n'], ['c'], ['c'], ['\n'], ['\n'], ['d'], ['d'], ['\n']] 5 true 1 0 = some 1 := by decide +kernel
example : paraGo [['a'], ['a'], ['\n'], ['\n'], ['b'], ['b'], ['\n'], ['c'], ['c'], ['\n'], ['\n'], ['d'], ['d'], ['\n']] 5 true 2 0 = some 4 := by decide +kernel
example : paraGo [['a'], ['a'], ['\n'], ['\n'], ['b'], ['b'], ['\n'], ['c'], ['c'], ['\n'], ['\n'], ['d'], ['d'], ['\n']] 5 true 3 0 = some 5 := by decide +kernel
example : paraGo [['a'], ['a'], ['\n'], ['\n'], ['b'], ['b'], ['\n'], ['c'], ['c'], ['\n'], ['\n'], ['d'], ['d'], ['\n']] 5 true 4 0 = none := by decide +kernel
example : paraGo [['a'], ['a'], ['\n'], ['\n'], ['b'], ['b'], ['\n'], ['c'], ['c'], ['\n'], ['\n'], ['d'], ['d'], ['\n']] 5 false 1 3 = some 1 := by decide +kernel
example : evalParagraph ⟨[['a'], ['a'], ['\n'], ['\n'], ['b'], ['\n']], 1, true, false, []⟩ true 1 true = .on 3 := by decide +kernel
example : evalParagraph ⟨[['a'], ['a'], ['\n'], ['\n'], ['b'], ['\n']], 1, true, false, []⟩ true 2 true = .onto 4 := by decide +kernel

end Vicut.Paragraph

namespace Vicut.ParaObj
open Vicut

theorem runUp_spec (p : PL) (k : Bool) (i : Nat) :
    p.runUp k i ≤ i ∧ ∀ j, p.runUp k i ≤ j → j < i → p.b j = k :=
  (scanDown_spec (f := p.runUp k) rfl (fun _ => rfl) i).imp_right fun h j a b => eq_of_beq (h j a b)

theorem runDown_spec (p : PL) (k : Bool) (f l : Nat) :
    l ≤ p.runDown k f l ∧ (l ≤ p.last → p.runDown k f l ≤ p.last) ∧
    ∀ j, l < j → j ≤ p.runDown k f l → p.b j = k := by
  obtain ⟨h1, h2, h3⟩ := scanUp_spec (g := p.runDown k) (fun _ => rfl) (fun _ _ => rfl) f l
  simp only [Bool.and_eq_true, decide_eq_true_eq, beq_iff_eq] at h2 h3
  refine ⟨h1, fun hl => h3 (· ≤ p.last) hl fun i _ hq => hq.1, fun j hj hjr => ?_⟩
  obtain ⟨i, rfl⟩ := Nat.exists_eq_add_one.mpr (Nat.zero_lt_of_lt hj)
  exact (h2 i (Nat.le_of_lt_succ hj) hjr).2

theorem extend_spec {p : PL} {l l' : Nat} (hl : l ≤ p.last) (h : p.extend l = some l') : l < l' ∧ l' ≤ p.last := by
  unfold PL.extend at h
  split at h
  · cases h
  · next hne =>
    cases h
    have hlt : l < p.last := Nat.lt_of_le_of_ne hl (by simpa using hne)
    obtain ⟨a, b, _⟩ := runDown_spec p (p.b (l + 1)) (p.last - l) (l + 1)
    exact ⟨a, b hlt⟩

/-- `moreRuns` and `moreParas` only iterate `extend`: what one `extend` keeps, they keep. -/
theorem moreRuns_keeps {p : PL} {P : Nat → Prop} (hext : ∀ l l', P l → p.extend l = some l' → P l')
    {k l l' : Nat} (hl : P l) (h : p.moreRuns k l = some l') : P l' := by
  fun_induction PL.moreRuns p k l
  case case1 => cases h; exact hl
  case case2 => cases h
  case case3 l1 he ih => exact ih (hext _ l1 hl he) h

theorem moreParas_keeps {p : PL} {P : Nat → Prop} (hext : ∀ l l', P l → p.extend l = some l' → P l')
    {ob : Bool} {k l l' : Nat} (hl : P l) (h : p.moreParas ob k l = some l') : P l' := by
  fun_induction PL.moreParas p ob k l
  case case1 => cases h; exact hl
  case case2 | case3 => cases h
  -- the recursion goes on from `l1 = extend l`, or from one more `extend` below it
  case case5 l1 he _ _ ih | case7 l1 he _ _ ih => exact ih (hext _ l1 hl he) h
  case case4 l1 he _ _ l2 he2 ih => exact ih (hext _ l2 (hext _ l1 hl he) he2) h
  case case6 l1 he _ _ ih =>
    refine ih ?_ h
    cases he2 : p.extend l1 with
    | none => exact hext _ l1 hl he
    | some l2 => exact hext _ l2 (hext _ l1 hl he) he2

/-- **`ip` / `ap` (any count) are whole lines around the cursor line**, inside the buffer. -/
theorem textObj_contains_cursor_line (p : PL) (cur count : Nat) (around : Bool) (a b : Nat)
    (h : p.textObj cur count around = some (a, b)) : a ≤ min cur p.last ∧ min cur p.last ≤ b ∧ b ≤ p.last := by
  revert h
  unfold PL.textObj
  dsimp only
  generalize hc : min cur p.last = c
  have ru := (runUp_spec p (p.b c) c).1
  -- the lines from `c` to the last one: `runDown` ends among them, and `extend` stays among them
  obtain ⟨rd1, rd2, _⟩ := runDown_spec p (p.b c) (p.last - c) c
  have h0 := And.intro rd1 (rd2 (hc ▸ Nat.min_le_right _ _))
  have hext : ∀ l l', c ≤ l ∧ l ≤ p.last → p.extend l = some l' → c ≤ l' ∧ l' ≤ p.last := fun l l' hl he =>
    ⟨Nat.le_trans hl.1 (Nat.le_of_lt (extend_spec hl.2 he).1), (extend_spec hl.2 he).2⟩
  generalize p.runDown (p.b c) (p.last - c) c = lastl at h0
  generalize p.runUp (p.b c) c = first at ru
  cases around
  · intro h
    obtain ⟨l, hm, ⟨⟩⟩ := Option.map_eq_some_iff.mp h
    exact ⟨ru, moreRuns_keeps hext h0 hm⟩
  cases p.b c <;> cases he : p.extend lastl <;> intro h
  case false.none =>
    -- no lines below the paragraph: the blank lines above it are taken
    obtain ⟨l, hm, ⟨⟩⟩ := Option.map_eq_some_iff.mp h
    exact ⟨Nat.le_trans (runUp_spec p true first).1 ru, moreParas_keeps hext h0 hm⟩
  case true.none => cases h
  case false.some | true.some =>
    obtain ⟨l, hm, ⟨⟩⟩ := Option.map_eq_some_iff.mp h
    exact ⟨ru, moreParas_keeps hext (hext _ _ h0 he) hm⟩

/-- **`ip` is of one kind**: every line of it is blank iff the cursor line is. -/
theorem ip_is_one_run (p : PL) (cur : Nat) (a b : Nat) (h : p.textObj cur 1 false = some (a, b)) :
    ∀ j, a ≤ j → j ≤ b → p.b j = p.b (min cur p.last) := by
  -- by computation the object is the pair (`runUp`, `runDown`) around `min cur p.last`
  obtain ⟨rfl, rfl⟩ := Prod.mk.inj (Option.some.inj h)
  intro j ha hb
  rcases Nat.lt_trichotomy j (min cur p.last) with hlt | rfl | hgt
  · exact (runUp_spec p _ _).2 j ha hlt
  · rfl
  · exact (runDown_spec p _ _ _).2.2 j hgt hb

/-- lines "aa","bb","","cc","dd","","ee": `ip` on line 3 is lines 3–4, `ap` adds the blank line 5, `ap` on
the last paragraph takes the blank line before it, `2ap` from the top takes lines 0–5, `3ap` the whole
buffer, `4ap` fails. -/
example : (PL.mk [false, false, true, false, false, true, false]).textObj 3 1 false = some (3, 4) := by decide +kernel
example : (PL.mk [false, false, true, false, false, true, false]).textObj 3 1 true = some (3, 5) := by decide +kernel
example : (PL.mk [false, false, true, false, false, true, false]).textObj 6 1 true = some (5, 6) := by decide +kernel
example : (PL.mk [false, false, true, false, false, true, false]).textObj 0 2 true = some (0, 5) := by decide +kernel
example : (PL.mk [false, false, true, false, false, true, false]).textObj 0 3 true = some (0, 6) := by decide +kernel
example : (PL.mk [false, false, true, false, false, true, false]).textObj 0 4 true = none := by decide +kernel
example : (PL.mk [false, false, true, false, false, true, false]).textObj 2 1 true = some (2, 4) := by decide +kernel

end Vicut.ParaObj

namespace Vicut.Sentence
open Vicut

theorem skip_ge (s : SK) (v f i : Nat) : i ≤ s.skip v f i :=
  (scanUp_spec (g := s.skip v) (fun _ => rfl) (fun _ _ => rfl) f i).1

theorem contrib_lt {s : SK} {i k : Nat} (hi : i < s.len) (h : k ∈ s.contrib i) : k < s.len := by
  revert h
  fun_cases SK.contrib s i <;> intro h
  · simp only [List.mem_append, List.mem_ite_nil_right, List.mem_singleton, Bool.and_eq_true, decide_eq_true_eq] at h
    rcases h with ⟨_, rfl⟩ | ⟨⟨h, _⟩, rfl⟩
    · exact hi
    · exact h
  · simp only [List.mem_ite_nil_right, List.mem_singleton] at h
    exact h.2.2 ▸ h.2.1
  · cases h

/-- **Every sentence start is a position of the text.** -/
theorem starts_in_text (s : SK) (i : Nat) (h : s.isStart i = true) : i < s.len := by
  unfold SK.isStart SK.startsList at h
  simp only [List.contains_eq_mem, List.mem_append, List.mem_ite_nil_right, List.mem_singleton, List.mem_flatMap,
    List.mem_range, decide_eq_true_eq] at h
  rcases h with ⟨h, rfl⟩ | ⟨q, hq, hc⟩
  · exact h
  · exact contrib_lt hq hc

/-- **The next sentence start after a position** lies strictly after it and is a sentence start (`)` goes there
when there is one). -/
theorem nextStart_spec (s : SK) (pos p : Nat) (h : s.nextStart pos = some p) : pos < p ∧ s.isStart p = true :=
  (findUp_spec (p := s.isStart) h).imp_right And.right

theorem prevStart_spec (s : SK) (pos p : Nat) (h : s.prevStart pos = some p) : p < pos ∧ s.isStart p = true :=
  findDown_spec (p := s.isStart) h

/-- **`(`** never moves forwards; with a count ≥ 1 it lands strictly before, on a sentence start. -/
theorem backGo_spec (s : SK) (n pos p : Nat) (h : s.backGo n pos = some p) :
    p ≤ pos ∧ (n > 0 → p < pos ∧ s.isStart p = true) := by
  fun_induction SK.backGo s n pos
  case case1 => cases h; exact ⟨Nat.le_refl _, fun h => absurd h (Nat.lt_irrefl 0)⟩
  case case2 => cases h
  case case3 n pos q hq ih =>
    obtain ⟨a, b⟩ := prevStart_spec s pos q hq
    obtain ⟨c, d⟩ := ih h
    refine ⟨Nat.le_trans c (Nat.le_of_lt a), fun _ => ⟨Nat.lt_of_le_of_lt c a, ?_⟩⟩
    cases n with
    | zero => cases h; exact b
    | succ n => exact (d (Nat.succ_pos n)).2

/-- **The first sentence starts with the buffer.** -/
theorem buffer_start_is_a_start (s : SK) (h : s.len > 0) : s.isStart 0 = true := by
  unfold SK.isStart SK.startsList
  simp [h]

/-- "Hi. Yo!  X" + terminator: kinds 0 0 3 1 0 0 3 1 1 0 2 — the starts are 0, 4 and 9. -/
example : (SK.mk [0, 0, 3, 1, 0, 0, 3, 1, 1, 0, 2]).nextStart 0 = some 4 := by decide +kernel
example : (SK.mk [0, 0, 3, 1, 0, 0, 3, 1, 1, 0, 2]).nextStart 4 = some 9 := by decide +kernel
example : (SK.mk [0, 0, 3, 1, 0, 0, 3, 1, 1, 0, 2]).prevStart 5 = some 4 := by decide +kernel
example : (SK.mk [0, 0, 3, 1, 0, 0, 3, 1, 1, 0, 2]).prevStart 4 = some 0 := by decide +kernel
example : (SK.mk [0, 0, 3, 1, 0, 0, 3, 1, 1, 0, 2]).evalSentence 9 1 true false = .null := by decide +kernel
example : (SK.mk [0, 0, 3, 1, 0, 0, 3, 1, 1, 0, 2]).evalSentence 5 2 false false = .on 0 := by decide +kernel
/-- an empty line is a sentence of its own: "a" nl nl "b" nl -/
example : (SK.mk [0, 2, 2, 0, 2]).nextStart 0 = some 2 := by decide +kernel
example : (SK.mk [0, 2, 2, 0, 2]).nextStart 2 = some 3 := by decide +kernel
/-- a dot inside a word ends nothing: "a.b c" -/
example : (SK.mk [0, 3, 0, 1, 0, 2]).nextStart 0 = none := by decide +kernel

end Vicut.Sentence
