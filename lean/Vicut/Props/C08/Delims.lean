import Vicut.Model.Delims
import Vicut.Props.C08.Motions

/-! # `%`, `[(` `])` `[{` `]}`, bracket and quote objects (model `Vicut.Model.Delims`)

From either end of a pair `%` reaches the other end iff the stretch between them is balanced (`matchFrom_iff`), so
`%` `%` is the identity. `%` from a closer never found its own opener before fix 3a24e4e (a `u32` depth wrapped: it
failed, or landed on an inner opener); the pre-fix scan is kept as `scanMatchOld` with a test vector. -/
namespace Vicut.DelimThms
open Vicut Vicut.Delim

theorem partner_symm {g t : Gr} {b : Bool} (h : partner g = some (t, b)) :
    g ≠ t ∧ partner t = some (g, !b) := by
  revert h
  fun_cases partner g
  case case9 => nofun
  all_goals
    rintro ⟨⟩
    subst g
    decide +kernel

/-- **The nesting scan finds exactly the first return to zero**: a `tgt` where the nesting is back to zero, having
been positive at every earlier position. -/
theorem scanMatch_iff (new tgt : Gr) (hne : new ≠ tgt) (xs : List Gr) (d k : Nat) (hd : 1 ≤ d) :
    scanMatch new tgt xs d = some k ↔
      (xs[k]? = some tgt ∧ d + (xs.take (k + 1)).count new = (xs.take (k + 1)).count tgt ∧
        ∀ j, j < k → (xs.take (j + 1)).count tgt < d + (xs.take (j + 1)).count new) := by
  induction xs generalizing d k with
  | nil => exact ⟨nofun, fun h => nomatch h.1⟩
  | cons g rest ih =>
    -- walking past `g` leaves depth `d'`: the conditions on `g :: rest` from `d` are those on `rest` from `d'`
    have past : ∀ d', 1 ≤ d' → d' + [g].count tgt = d + [g].count new →
        ((scanMatch new tgt rest d').map (· + 1) = some k ↔
          ((g :: rest)[k]? = some tgt ∧
            d + ((g :: rest).take (k + 1)).count new = ((g :: rest).take (k + 1)).count tgt ∧
            ∀ j, j < k → ((g :: rest).take (j + 1)).count tgt < d + ((g :: rest).take (j + 1)).count new)) := by
      intro d' hd' hstep
      -- `g`'s share of each count is taken out, traded through `hstep` and cancelled
      have cnt : ∀ x n, ((g :: rest).take (n + 1)).count x = (rest.take n).count x + [g].count x := fun x n => by
        rw [List.take_succ_cons, List.count_cons, List.count_singleton]
      simp only [cnt, Nat.add_left_comm d, ← hstep, ← Nat.add_assoc, Nat.add_right_cancel_iff, Nat.add_lt_add_iff_right]
      cases k with
      | zero =>
        refine ⟨fun h => ?_, fun h => absurd h.2.1 (Nat.ne_of_gt (Nat.lt_add_left _ hd'))⟩
        obtain ⟨_, _, h⟩ := Option.map_eq_some_iff.mp h
        cases h
      | succ k =>
        simp only [Option.map_eq_some_iff, Nat.add_right_cancel_iff, exists_eq_right, ih d' k hd', Nat.add_comm d',
          Nat.forall_lt_succ_left, List.getElem?_cons_succ]
        exact and_congr_right fun _ => and_congr_right fun _ => (and_iff_right (Nat.lt_add_left _ hd')).symm
    unfold scanMatch
    by_cases h1 : g = new
    · rw [if_pos h1]
      exact past _ (Nat.succ_pos d) (by subst h1; simp [hne])
    rw [if_neg h1]
    by_cases h2 : g = tgt
    · subst h2
      rw [if_pos rfl]
      by_cases h3 : d - 1 = 0
      · -- depth 1 at a `tgt`: the answer; a later `k` fails the test at `j = 0`
        rw [if_pos h3]
        have h0 : d + [g].count new = [g].count g := by simp [h1]; omega
        constructor
        · rintro ⟨⟩; exact ⟨rfl, h0, nofun⟩
        · intro ⟨_, _, c⟩
          cases k with
          | zero => rfl
          | succ k => have := c 0 (by omega); simp only [List.take_succ_cons, List.take_zero] at this; omega
      · rw [if_neg h3]
        exact past _ (by omega) (by simp [h1]; omega)
    · rw [if_neg h2]
      exact past _ hd (by simp [h1, h2])

/-- as many `o` as `c`, and no prefix closes more than it has opened -/
def Balanced (o c : Gr) (T : List Gr) : Prop :=
  T.count o = T.count c ∧ ∀ n, (T.take n).count c ≤ (T.take n).count o

theorem Balanced.reverse {o c : Gr} {T : List Gr} (h : Balanced o c T) : Balanced c o T.reverse := by
  refine ⟨by simpa using h.1.symm, fun n => ?_⟩
  have split : ∀ a, (T.take (T.length - n)).count a + (T.drop (T.length - n)).count a = T.count a := fun a => by
    rw [← List.count_append, List.take_append_drop]
  have := split o
  have := split c
  have := h.2 (T.length - n)
  have := h.1
  simp only [List.take_reverse, List.count_reverse]
  omega

theorem Balanced.reverse_iff {o c : Gr} {T : List Gr} : Balanced c o T.reverse ↔ Balanced o c T :=
  ⟨fun h => by simpa using h.reverse, Balanced.reverse⟩

/-- the scan as both directions of `%` call it: depth 0, the delimiter itself first -/
theorem scanMatch_self {o c : Gr} (hne : o ≠ c) (xs : List Gr) (k : Nat) :
    scanMatch o c (o :: xs) 0 = some k ↔ ∃ m, m + 1 = k ∧ xs[m]? = some c ∧ Balanced o c (xs.take m) := by
  have : scanMatch o c (o :: xs) 0 = (scanMatch o c xs 1).map (· + 1) := by simp [scanMatch]
  rw [this, Option.map_eq_some_iff]
  refine exists_congr fun m => ?_
  rw [and_comm, scanMatch_iff o c hne xs 1 m (Nat.le_refl 1)]
  refine and_congr_right fun _ => and_congr_right fun hm => ?_
  have hlast : xs.take (m + 1) = xs.take m ++ [c] := by rw [List.take_add_one, hm]; rfl
  rw [hlast]
  simp only [Balanced, List.count_append, List.count_singleton, List.take_take, beq_iff_eq, Ne.symm hne, if_true,
    if_false, Nat.add_zero, Nat.add_comm 1, Nat.lt_add_one_iff, Nat.add_right_cancel_iff]
  refine and_congr_right fun _ => ⟨fun h n => ?_, fun h j hj => ?_⟩
  · have hi : min n m ≤ m := Nat.min_le_right n m
    generalize min n m = i at hi ⊢
    cases i with
    | zero => exact Nat.le_refl 0
    | succ j => exact h j hi
  · have := h (j + 1)
    rwa [Nat.min_eq_left (show j + 1 ≤ m from hj)] at this

/-- opener `o` at `i`, closer `c` at `j`, the `m` graphemes between them balanced (`m + 1 + i` is how the forward
scan writes `j`) -/
def Matched (gs : List Gr) (o c : Gr) (i j : Nat) : Prop :=
  gs[i]? = some o ∧ gs[j]? = some c ∧ ∃ m, m + 1 + i = j ∧ Balanced o c ((gs.drop (i + 1)).take m)

theorem matchFrom_opener {gs : List Gr} {i j : Nat} {o c : Gr} (hi : gs[i]? = some o)
    (hp : partner o = some (c, true)) : matchFrom gs i = some j ↔ Matched gs o c i j := by
  obtain ⟨hlt, ho⟩ := List.getElem?_eq_some_iff.mp hi
  have e : ∀ m, i + 1 + m = m + 1 + i := fun m => by omega
  simp only [matchFrom, hi, hp, List.drop_eq_getElem_cons hlt, ho, Option.map_eq_some_iff,
    scanMatch_self (partner_symm hp).1, List.getElem?_drop, e, Matched, true_and]
  constructor
  · rintro ⟨_, ⟨m, rfl, hm, hb⟩, rfl⟩
    exact ⟨hm, m, rfl, hb⟩
  · rintro ⟨hj, m, rfl, hb⟩
    exact ⟨m + 1, ⟨m, rfl, hj, hb⟩, rfl⟩

/-- The first `j` graphemes read backwards: place `m` is `l[i]`, and the `m` places before it are the `m` graphemes
after `i`, reversed. `j` is a variable so that both directions of `matchFrom_closer` fit. -/
theorem reverse_take_getElem?_take {α : Type} (l : List α) {i m j : Nat} (hj : m + 1 + i = j) (h : j ≤ l.length) :
    (l.take j).reverse[m]? = l[i]? ∧ (l.take j).reverse.take m = ((l.drop (i + 1)).take m).reverse := by
  subst hj
  have hlen : (l.take (m + 1 + i)).length = m + 1 + i := List.length_take_of_le h
  have hd : m + 1 + i = m + (i + 1) := by rw [Nat.add_assoc, Nat.add_comm 1 i]
  constructor
  · rw [List.getElem?_reverse' ((Nat.add_right_comm m i 1).trans hlen.symm),
      List.getElem?_take_of_lt (Nat.lt_add_of_pos_left (Nat.succ_pos m))]
  · rw [List.take_reverse, hlen, hd, Nat.add_sub_cancel_left, List.drop_take, Nat.add_sub_cancel]

/-- the same from the closer, through the reversed prefix -/
theorem matchFrom_closer {gs : List Gr} {i j : Nat} {o c : Gr} (hj : gs[j]? = some c)
    (hp : partner c = some (o, false)) : matchFrom gs j = some i ↔ Matched gs o c i j := by
  have hlt : j < gs.length := (List.getElem?_eq_some_iff.mp hj).1
  simp only [matchFrom, hj, hp, List.take_add_one, Option.toList, List.reverse_append, List.reverse_cons,
    List.reverse_nil, List.nil_append, List.singleton_append, Option.map_eq_some_iff,
    scanMatch_self (partner_symm hp).1]
  constructor
  · rintro ⟨_, ⟨m, rfl, hm, hb⟩, rfl⟩
    have hmj : m + 1 ≤ j := by
      have := (List.getElem?_eq_some_iff.mp hm).1
      rwa [List.length_reverse, List.length_take_of_le (Nat.le_of_lt hlt)] at this
    have e : m + 1 + (j - (m + 1)) = j := Nat.add_sub_cancel' hmj
    obtain ⟨e1, e2⟩ := reverse_take_getElem?_take gs e (Nat.le_of_lt hlt)
    exact ⟨e1 ▸ hm, hj, m, e, Balanced.reverse_iff.mp (e2 ▸ hb)⟩
  · rintro ⟨hi, _, m, rfl, hb⟩
    obtain ⟨e1, e2⟩ := reverse_take_getElem?_take gs rfl (Nat.le_of_lt hlt)
    exact ⟨m + 1, ⟨m, rfl, e1 ▸ hi, e2 ▸ Balanced.reverse_iff.mpr hb⟩, Nat.add_sub_cancel_left _ _⟩

/-- **What `%` computes**; the right side does not tell `i` from `j`. -/
theorem matchFrom_iff {gs : List Gr} {i j : Nat} :
    matchFrom gs i = some j ↔
      ∃ o c, partner o = some (c, true) ∧ (Matched gs o c i j ∨ Matched gs o c j i) := by
  constructor
  · intro h
    cases hg : gs[i]? with
    | none => simp [matchFrom, hg] at h
    | some g =>
      cases hp : partner g with
      | none => simp [matchFrom, hg, hp] at h
      | some tb =>
        obtain ⟨t, _ | _⟩ := tb
        · exact ⟨t, g, (partner_symm hp).2, .inr ((matchFrom_closer hg hp).mp h)⟩
        · exact ⟨g, t, hp, .inl ((matchFrom_opener hg hp).mp h)⟩
  · rintro ⟨o, c, hp, hm | hm⟩
    · exact (matchFrom_opener hm.1 hp).mpr hm
    · exact (matchFrom_closer hm.2.1 (partner_symm hp).2).mpr hm

/-- so on a delimiter that has a match, `%` `%` is the identity -/
theorem matchFrom_twice (gs : List Gr) (idx j : Nat) (h : matchFrom gs idx = some j) : matchFrom gs j = some idx := by
  obtain ⟨o, c, hp, hm⟩ := matchFrom_iff.mp h
  exact matchFrom_iff.mpr ⟨o, c, hp, hm.symm⟩

/-- from an opener `%` lands on a closer from which `%` comes back -/
theorem matchFrom_involutive_fwd (gs : List Gr) (idx j : Nat) (g tgt : Gr)
    (hg : gs[idx]? = some g) (hp : partner g = some (tgt, true)) (h : matchFrom gs idx = some j) :
    matchFrom gs j = some idx :=
  matchFrom_twice gs idx j h

/-- likewise from a closer -/
theorem matchFrom_involutive_bwd (gs : List Gr) (idx j : Nat) (g tgt : Gr)
    (hg : gs[idx]? = some g) (hp : partner g = some (tgt, false)) (h : matchFrom gs idx = some j) :
    matchFrom gs j = some idx :=
  matchFrom_twice gs idx j h

/-- `%` never leaves the text. -/
theorem evalDelimMatch_inside (s : MS) (p : Nat) (h : evalDelimMatch s = .onto p) : p < s.max := by
  unfold evalDelimMatch at h
  split at h
  · cases h
  · rename_i q hq
    cases h
    unfold findMatching at hq
    split at hq
    · cases hq
    · obtain ⟨o, c, _, ⟨_, hp, _⟩ | ⟨hp, _⟩⟩ := matchFrom_iff.mp hq <;>
        exact (List.getElem?_eq_some_iff.mp hp).1

/-- `a (b [c] d) e`: from the `)` at 10 back to the `(` at 2; before fix 3a24e4e the motion failed -/
example : matchFrom ("a (b [c] d) e".toList.map (fun c => [c])) 10 = some 2 := by decide +kernel
example : matchFromOld ("a (b [c] d) e".toList.map (fun c => [c])) 10 = none := by decide +kernel
example : matchFrom ("a (b [c] d) e".toList.map (fun c => [c])) 2 = some 10 := by decide +kernel
example : matchFrom ("a (b [c] d) e".toList.map (fun c => [c])) 7 = some 5 := by decide +kernel
/-- nesting of the same kind is respected, other kinds are ignored: `((]))` -/
example : matchFrom ("((]))".toList.map (fun c => [c])) 0 = some 4 := by decide +kernel
example : matchFrom ("((]))".toList.map (fun c => [c])) 3 = some 1 := by decide +kernel
/-- an unbalanced closer has no match -/
example : matchFrom ("a) b".toList.map (fun c => [c])) 1 = none := by decide +kernel
/-- the cursor need not be on a delimiter: the next one on the line is taken, else the opener before -/
example : evalDelimMatch ⟨"ab (cd) e\n".toList.map (fun c => [c]), 0, true, false, []⟩ = .onto 6 := by decide +kernel
example : evalDelimMatch ⟨"ab (cd) e\n".toList.map (fun c => [c]), 4, true, false, []⟩ = .onto 3 := by decide +kernel
example : evalDelimMatch ⟨"ab (cd) e\n".toList.map (fun c => [c]), 8, true, false, []⟩ = .onto 6 := by decide +kernel
example : matchFrom ("a (b [c] d) e".toList.map (fun c => [c])) 2 = some 10 ∧
    matchFrom ("a (b [c] d) e".toList.map (fun c => [c])) 10 = some 2 := by decide +kernel

theorem pick_on_delim (s : MS) (g : Gr) (hg : s.gs[s.cur]? = some g) (hall : all.contains g = true)
    (hl : s.cur < s.eol) : pick s = some s.cur := by
  have h0 : seg s.gs s.cur s.eol = g :: (s.gs.take s.eol).drop (s.cur + 1) := by
    rw [seg, List.drop_eq_getElem?_toList_append, List.getElem?_take, if_pos hl, hg]
    rfl
  rw [pick, findFwd, h0, List.findIdx?_cons, hall]
  exact congrArg some (Nat.zero_add _)

/-- with the cursor on a delimiter inside its line, `%` is `matchFrom` at the cursor -/
theorem findMatching_on_delim (s : MS) (g : Gr) (hg : s.gs[s.cur]? = some g) (hall : all.contains g = true)
    (hl : s.cur < s.eol) : findMatching s = matchFrom s.gs s.cur := by
  unfold findMatching
  rw [pick_on_delim s g hg hall hl]

theorem scanUnmatched_sound {gs : List Gr} {up down : Gr} {ps : List Nat} {d i : Nat}
    (h : scanUnmatched gs up down ps d = some i) :
    i ∈ ps ∧ gs[i]? = some down ∧ escaped gs i = false := by
  fun_induction scanUnmatched gs up down ps d
  case case1 | case3 => cases h
  case case5 he hg _ => cases h; exact ⟨.head _, hg, by simpa using he⟩
  all_goals rename_i ih; exact (ih h).imp_left (.tail _)

/-- `])` `]}` land on an unescaped closer from the cursor on, inside the text -/
theorem findUnmatched_fwd (s : MS) (o c : Gr) (i : Nat) (h : findUnmatched s o c true = some i) :
    s.cur ≤ i ∧ i < s.max ∧ s.gs[i]? = some c ∧ escaped s.gs i = false := by
  -- `findUnmatched … true` computes to this scan
  obtain ⟨a, b, e⟩ := scanUnmatched_sound (h : scanUnmatched _ _ _ _ _ = _)
  exact ⟨(List.mem_range'_sub a).1, (List.mem_range'_sub a).2, b, e⟩

/-- `[(` `[{` land on an unescaped opener before the cursor -/
theorem findUnmatched_bwd (s : MS) (o c : Gr) (i : Nat) (h : findUnmatched s o c false = some i) :
    i < s.cur ∧ s.gs[i]? = some o ∧ escaped s.gs i = false := by
  obtain ⟨a, b, e⟩ := scanUnmatched_sound (h : scanUnmatched _ _ _ _ _ = _)
  exact ⟨by simpa using a, b, e⟩

/-- `f(a, g(b), c)`: `])` from `a` (2) goes to the last `)` (12), `[(` from `c` (11) to the first `(` (1); inner pairs are skipped -/
example : evalUnmatched ⟨"f(a, g(b), c)".toList.map (fun c => [c]), 2, true, false, []⟩ ['('] [')'] true = .on 12 := by decide +kernel
example : evalUnmatched ⟨"f(a, g(b), c)".toList.map (fun c => [c]), 11, true, false, []⟩ ['('] [')'] false = .on 1 := by decide +kernel
/-- an escaped delimiter is not one -/
example : evalUnmatched ⟨"a \\) b)".toList.map (fun c => [c]), 0, true, false, []⟩ ['('] [')'] true = .on 6 := by decide +kernel

theorem scanPair_open (gs : List Gr) (o c : Gr) (ps : List Nat) (d a : Nat) :
    scanPair gs o c ps (d + 1) (some a) = (scanUnmatched gs o c ps d).map (a, ·) := by
  fun_induction scanUnmatched gs o c ps d
  -- a closer at depth `d ≠ 0`: `scanPair`, at `d + 1 ≠ 1`, goes on at `d`, `scanUnmatched` at `d - 1`
  case case6 hd _ _ ih => simp [scanPair, *, ← ih, Nat.sub_add_cancel (Nat.pos_of_ne_zero hd)]
  all_goals simp [scanPair, *]

/-- `h0` instead of a literal 0: the induction follows `oc` -/
theorem scanPair_zero {gs : List Gr} {o c : Gr} {ps : List Nat} {oc : Nat} {st : Option Nat} {r : Nat × Nat}
    (h0 : oc = 0) (h : scanPair gs o c ps oc st = some r) :
    ∃ post, (r.1 :: post).Sublist ps ∧ gs[r.1]? = some o ∧ escaped gs r.1 = false ∧
      scanUnmatched gs o c post 0 = some r.2 := by
  fun_induction scanPair gs o c ps oc st
  case case1 | case3 => cases h
  case case5 => cases h0
  case case4 p rest _ _ he hg _ =>
    subst h0
    rw [if_pos rfl, scanPair_open, Option.map_eq_some_iff] at h
    obtain ⟨e, he', rfl⟩ := h
    exact ⟨rest, .refl _, hg, by simpa using he, he'⟩
  all_goals
    rename_i ih
    obtain ⟨post, sub, x⟩ := ih (by omega) h
    exact ⟨post, sub.cons _, x⟩

theorem extendWs_bounds (s : MS) (eol f e : Nat) (h : e ≤ s.max) :
    e ≤ extendWs s eol f e ∧ extendWs s eol f e ≤ s.max := by
  obtain ⟨h1, _, h3⟩ := scanUp_spec (g := extendWs s eol) (fun _ => rfl) (fun _ _ => rfl) f e
  refine ⟨h1, h3 (· ≤ s.max) h fun i _ hi => ?_⟩
  simp only [Bool.and_eq_true, decide_eq_true_eq] at hi
  exact hi.2

/-- the last step of `text_obj_delim` and `text_obj_quote` alike -/
theorem objSpan_spec (s : MS) {around : Bool} {st e a b : Nat} {c : Gr} (he : s.gs[e]? = some c)
    (h : (if around then (st, extendWs s s.eol (s.eol - (e + 1)) (e + 1)) else (st + 1, e)) = (a, b)) :
    (around = false → a = st + 1 ∧ b = e) ∧ (around = true → a = st ∧ e + 1 ≤ b ∧ b ≤ s.max) := by
  cases around <;> cases h
  · exact ⟨fun _ => ⟨rfl, rfl⟩, nofun⟩
  · exact ⟨nofun, fun _ => ⟨rfl, extendWs_bounds s _ _ _ (List.getElem?_eq_some_iff.mp he).1⟩⟩

/-- the pair `i(` / `a(` work on: an unescaped opener and a later unescaped closer of the kind asked for -/
theorem textObjDelim_pair (s : MS) (o c : Gr) (around : Bool) (a b : Nat)
    (h : textObjDelim s o c around = some (a, b)) :
    ∃ st e, s.gs[st]? = some o ∧ escaped s.gs st = false ∧ s.gs[e]? = some c ∧ escaped s.gs e = false ∧ st < e ∧
      (around = false → a = st + 1 ∧ b = e) ∧
      (around = true → a = st ∧ e + 1 ≤ b ∧ b ≤ s.max) := by
  unfold textObjDelim at h
  obtain ⟨⟨st, e⟩, hpair, hr⟩ := Option.map_eq_some_iff.mp h
  refine ⟨st, e, ?_⟩
  split at hpair
  · -- the pair around the cursor: `[(`, then `])` with the cursor just behind that opener
    rename_i st' hst
    obtain ⟨e', he', ⟨⟩⟩ := Option.map_eq_some_iff.mp hpair
    obtain ⟨_, x, y⟩ := scanUnmatched_sound hst
    obtain ⟨m, x', y'⟩ := scanUnmatched_sound he'
    exact ⟨x, y, x', y', (List.mem_range'_sub m).1, objSpan_spec s x' hr⟩
  · obtain ⟨post, sub, x, y, z⟩ := scanPair_zero rfl hpair
    obtain ⟨m, x', y'⟩ := scanUnmatched_sound z
    exact ⟨x, y, x', y', (List.pairwise_cons.mp (List.Pairwise.sublist sub List.pairwise_lt_range')).1 e m,
      objSpan_spec s x' hr⟩

/-- `f(a, g(b), c)`: inside the outer pair from `a`; the inner pair from `b`; the first pair after the cursor from `f` -/
example : evalTextObjDelim ⟨"f(a, g(b), c) z".toList.map (fun c => [c]), 2, true, false, []⟩ ['('] [')'] false = .exclusive 2 12 := by decide +kernel
example : evalTextObjDelim ⟨"f(a, g(b), c) z".toList.map (fun c => [c]), 7, true, false, []⟩ ['('] [')'] false = .exclusive 7 8 := by decide +kernel
example : evalTextObjDelim ⟨"f(a, g(b), c) z".toList.map (fun c => [c]), 0, true, false, []⟩ ['('] [')'] false = .exclusive 2 12 := by decide +kernel
/-- `a(` takes the blanks after the closer -/
example : evalTextObjDelim ⟨"f(a)  z".toList.map (fun c => [c]), 2, true, false, [false, false, false, false, true, true, false]⟩ ['('] [')'] true = .exclusive 1 6 := by decide +kernel
/-- no pair: the object fails -/
example : evalTextObjDelim ⟨"a) b(".toList.map (fun c => [c]), 2, true, false, []⟩ ['('] [')'] false = .null := by decide +kernel

open Vicut.Quote

theorem back_sound {gs : List Gr} {q : Gr} {f : Nat} {ps : List Nat} {i : Nat}
    (h : back gs q f ps = some i) : i ∈ ps ∧ gs[i]? = some q := by
  fun_induction back gs q f ps
  case case4 _ hg => cases h; exact ⟨.head _, hg⟩
  case case5 ih =>
    exact (ih h).imp_left fun m => .tail _ ((List.dropWhile_sublist _).subset (List.mem_of_mem_drop m))
  case case6 ih => exact (ih h).imp_left (.tail _)
  all_goals cases h

theorem fwd_sound {gs : List Gr} {q : Gr} {f : Nat} {ps : List Nat} {r : Nat × List Nat}
    (h : fwd gs q f ps = some r) : (r.1 :: r.2).Sublist ps ∧ gs[r.1]? = some q := by
  fun_induction fwd gs q f ps
  case case4 ih => exact (ih h).imp_left fun s => (s.trans (List.drop_sublist 1 _)).cons _
  case case5 hg _ => cases h; exact ⟨.refl _, hg⟩
  case case6 ih => exact (ih h).imp_left (.cons _)
  all_goals cases h

/-- **Quote objects** work on two quote characters of the kind asked for, both on the cursor's line: `i"` is what is
strictly between them, `a"` starts on the first and ends after the second. -/
theorem textObjQuote_pair (s : MS) (q : Gr) (around : Bool) (a b : Nat) (hsc : s.sol ≤ s.cur)
    (h : textObjQuote s q around = some (a, b)) :
    ∃ st e, s.gs[st]? = some q ∧ s.gs[e]? = some q ∧ s.sol ≤ st ∧ e < s.eol ∧
      (around = false → a = st + 1 ∧ b = e) ∧ (around = true → a = st ∧ e + 1 ≤ b ∧ b ≤ s.max) := by
  unfold textObjQuote at h
  obtain ⟨⟨st, e⟩, hpair, hr⟩ := Option.map_eq_some_iff.mp h
  refine ⟨st, e, ?_⟩
  split at hpair
  · rename_i st' hst
    obtain ⟨r, hr', ⟨⟩⟩ := Option.map_eq_some_iff.mp hpair
    obtain ⟨m, x⟩ := back_sound hst
    obtain ⟨m', x'⟩ := fwd_sound hr'
    exact ⟨x, x', (List.mem_range'_sub (List.mem_reverse.mp m)).1, (List.mem_range'_sub (m'.subset (.head _))).2,
      objSpan_spec s x' hr⟩
  · split at hpair
    · cases hpair
    · rename_i st' rest hf
      obtain ⟨r, hr', ⟨⟩⟩ := Option.map_eq_some_iff.mp hpair
      obtain ⟨m, x⟩ := fwd_sound hf
      obtain ⟨m', x'⟩ := fwd_sound hr'
      exact ⟨x, x', Nat.le_trans hsc (List.mem_range'_sub (m.subset (.head _))).1,
        (List.mem_range'_sub (m.subset (.tail _ (m'.subset (.head _))))).2, objSpan_spec s x' hr⟩

/-- the same for every cursor inside a text whose terminators are graphemes of their own -/
theorem textObjQuote_pair_in_text (s : MS) (q : Gr) (around : Bool) (a b : Nat) (hc : s.cur ≤ s.max) (hnl : C09.NlAlone s.gs)
    (h : textObjQuote s q around = some (a, b)) :
    ∃ st e, s.gs[st]? = some q ∧ s.gs[e]? = some q ∧ s.sol ≤ st ∧ e < s.eol ∧
      (around = false → a = st + 1 ∧ b = e) ∧ (around = true → a = st ∧ e + 1 ≤ b ∧ b ≤ s.max) :=
  textObjQuote_pair s q around a b (Motions.thisLine_bounds s hc hnl).1 h

/-- `say "hi \" there" now`: from inside the string, and from before it (the first pair after the cursor) -/
example : evalTextObjQuote ⟨"say \"hi \\\" x\" now\n".toList.map (fun c => [c]), 7, true, false, []⟩ [Char.ofNat 34] false = .exclusive 5 12 := by decide +kernel
example : evalTextObjQuote ⟨"say \"hi \\\" x\" now\n".toList.map (fun c => [c]), 0, true, false, []⟩ [Char.ofNat 34] false = .exclusive 5 12 := by decide +kernel
/-- a lone quote is no object -/
example : evalTextObjQuote ⟨"it`s\n".toList.map (fun c => [c]), 0, true, false, []⟩ ['`'] false = .null := by decide +kernel

end Vicut.DelimThms
