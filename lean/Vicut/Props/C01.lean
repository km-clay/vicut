/-
C01 — a cut field is exactly the text spanned by the cursor's movement.
The statements quantify over every start cursor, every end cursor and every post-command buffer:
that covers all commands, including ones that fail or overshoot, without modelling any of them.
`C01Block`: the windows of a visual-block selection (`get_block_select_windows`, `Model/Block`).
-/
import Vicut.Model.Field
import Vicut.Model.Block
import Vicut.Lemmas.Lines
import Vicut.Lemmas.Scans

namespace Vicut.C01
open Vicut

theorem sliceGs_eq {gs : List Gr} {a b : Nat} (h : a < gs.length ∧ b ≤ gs.length ∧ a ≤ b) :
    sliceGs gs a b = some ((gs.drop a).take (b - a)).flatten :=
  if_pos h

theorem span_ends {lo hi n : Nat} (h : lo ≤ hi) (hn : 0 < n) :
    min lo (n - 1) < n ∧ min (hi + 1) n ≤ n ∧ min lo (n - 1) ≤ min (hi + 1) n :=
  ⟨Nat.lt_of_le_of_lt (Nat.min_le_right _ _) (Nat.pred_lt_of_lt hn), Nat.min_le_right _ _,
    Nat.le_min.mpr ⟨Nat.le_trans (Nat.min_le_left _ _) (Nat.le_succ_of_le h),
      Nat.le_trans (Nat.min_le_right _ _) (Nat.pred_le _)⟩⟩

/-- **Any cursor values** (overshooting, stale, whatever the keys left behind): the field is still a
slice of the text between clamped ends — never an error on a non-empty buffer. -/
theorem field_span (gs : List Gr) (c0 c1 : Nat) (hne : gs ≠ []) :
    fieldOf gs c0 c1 none none
      = .ok (((gs.drop (min (min c0 c1) (gs.length - 1))).take
          (min (max c0 c1 + 1) gs.length - min (min c0 c1) (gs.length - 1))).flatten) := by
  have hem : gs.isEmpty = false := List.isEmpty_eq_false_iff.mpr hne
  simp only [fieldOf, hem, Bool.false_eq_true, ↓reduceIte, clampGet,
    sliceGs_eq (span_ends (Nat.min_le_max c0 c1) (List.length_pos_iff.mpr hne))]

/-- **Exact span.** When both cursor positions are on characters of the text, the field is the
graphemes from the smaller to the larger position, both ends included. -/
theorem field_span_exact (gs : List Gr) (c0 c1 : Nat) (h0 : c0 < gs.length) (h1 : c1 < gs.length) :
    fieldOf gs c0 c1 none none
      = .ok (((gs.drop (min c0 c1)).take (max c0 c1 - min c0 c1 + 1)).flatten) := by
  -- nothing is clamped
  have hs : min (min c0 c1) (gs.length - 1) = min c0 c1 :=
    Nat.min_eq_left (Nat.le_trans (Nat.min_le_left _ _) (Nat.le_pred_of_lt h0))
  have he : min (max c0 c1 + 1) gs.length = max c0 c1 + 1 := Nat.min_eq_left (Nat.max_lt.mpr ⟨h0, h1⟩)
  have hw : max c0 c1 + 1 - min c0 c1 = max c0 c1 - min c0 c1 + 1 :=
    Nat.sub_add_comm (Nat.min_le_max _ _)
  rw [field_span gs c0 c1 (List.ne_nil_of_length_pos (Nat.zero_lt_of_lt h0)), hs, he, hw]

/-- The field is cut at grapheme boundaries of the post-command text: the text is
`before ++ field ++ after` for whole-grapheme `before`/`after`. -/
theorem field_is_cut_at_boundaries (gs : List Gr) (c0 c1 : Nat) (hne : gs ≠ []) :
    ∃ a b f, fieldOf gs c0 c1 none none = .ok f ∧ a ≤ b ∧ b ≤ gs.length ∧
      gs.flatten = (gs.take a).flatten ++ f ++ (gs.drop b).flatten := by
  obtain ⟨_, hb, hab⟩ := span_ends (Nat.min_le_max c0 c1) (List.length_pos_iff.mpr hne)
  refine ⟨_, _, _, field_span gs c0 c1 hne, hab, hb, ?_⟩
  rw [← List.flatten_append, ← List.flatten_append, List.take_mid_drop gs hab]

/-- On an empty buffer every `-c` yields the empty field. -/
theorem field_empty_buffer (c0 c1 : Nat) : fieldOf [] c0 c1 none none = .ok [] := by
  simp [fieldOf]

theorem field_selected_char_clamped (gs : List Gr) (c0 c1 s e : Nat) (a : SelAnchor) (hs : s < gs.length)
    (hse : s ≤ e + 1) :
    fieldOf gs c0 c1 (some (.char a)) (some (.oneDim s e))
      = .ok (((gs.drop s).take (min (e + 1) gs.length - s)).flatten) := by
  simp only [fieldOf, selectedContent, sliceGs_eq ⟨hs, Nat.min_le_right _ _, Nat.le_min.mpr ⟨hse, Nat.le_of_lt hs⟩⟩]

/-- **Charwise selection:** exactly the graphemes `s ..= e` of the selection, whatever the cursor did. -/
theorem field_selected_char (gs : List Gr) (c0 c1 s e : Nat) (a : SelAnchor) (hs : s ≤ e) (he : e < gs.length) :
    fieldOf gs c0 c1 (some (.char a)) (some (.oneDim s e))
      = .ok (((gs.drop s).take (e + 1 - s)).flatten) := by
  rw [field_selected_char_clamped gs c0 c1 s e a (Nat.lt_of_le_of_lt hs he) (Nat.le_succ_of_le hs), Nat.min_eq_left he]

/-- A charwise selection whose end is the end-of-text position (visual mode lets the cursor sit there)
selects through the last character. -/
theorem field_selected_char_at_end (gs : List Gr) (c0 c1 s e : Nat) (a : SelAnchor) (hs : s < gs.length) (he : gs.length ≤ e) :
    fieldOf gs c0 c1 (some (.char a)) (some (.oneDim s e)) = .ok ((gs.drop s).flatten) := by
  rw [field_selected_char_clamped gs c0 c1 s e a hs (Nat.le_succ_of_le (Nat.le_trans (Nat.le_of_lt hs) he)),
    Nat.min_eq_right (Nat.le_succ_of_le he),
    List.take_of_length_le (by rw [List.length_drop]; exact Nat.le_refl _)]

/-- **Linewise selection:** the graphemes `s .. e` (whole lines; `e` is the exclusive end that
`line_bounds` gives). -/
theorem field_selected_line (gs : List Gr) (c0 c1 s e : Nat) (a : SelAnchor) (hs : s ≤ e) (he : e ≤ gs.length) (hs' : s < gs.length) :
    fieldOf gs c0 c1 (some (.line a)) (some (.oneDim s e)) = .ok (((gs.drop s).take (e - s)).flatten) := by
  simp only [fieldOf, selectedContent, sliceGs_eq ⟨hs', he, hs⟩]

/-- **Block selection:** the column window of every line, joined by newlines (never an error). -/
theorem field_selected_block (gs : List Gr) (c0 c1 : Nat) (m : Option SelMode) (ws : List (Nat × Nat)) :
    fieldOf gs c0 c1 m (some (.twoDim ws))
      = .ok (joinWith ['\n'] (ws.filterMap (fun w => sliceGs gs w.1 w.2))) := by
  simp [fieldOf, selectedContent]

/-- **`read_field` never panics**, whatever the cursors, the selection and the text (after the fix: the
end of a charwise selection is clamped and an unsliceable selection gives the empty field). -/
theorem field_never_panics (gs : List Gr) (c0 c1 : Nat) (m : Option SelMode) (r : Option SelRange) :
    fieldOf gs c0 c1 m r ≠ .error .panic := by
  fun_cases fieldOf gs c0 c1 m r <;> nofun

/-- Before the fix a selection ending at the last position plus one (or at the end of the text) made
`selected_content()` return `None`, which `read_field` unwrapped: `printf ab | vicut -c 'v$'` panicked. -/
def fieldOfLegacySel (gs : List Gr) (s e : Nat) : Option Str := sliceGs gs s (e + 1)
theorem legacy_selection_past_end_is_none : fieldOfLegacySel [['a'], ['b']] 0 2 = none := by decide +kernel

example : fieldOf [['h'], ['é'], ['l'], ['l'], ['o']] 3 1 none none = .ok ['é', 'l', 'l'] := by rfl
example : fieldOf [['a'], ['b']] 0 99 none none = .ok ['a', 'b'] := by rfl

end Vicut.C01

namespace Vicut.C01Block
open Vicut Vicut.Block

/-- the last position a row may reach -/
def cap (gs : List Gr) (b : Nat × Nat) : Nat := if b.2 > b.1 && isNlAtGs gs (b.2 - 1) then b.2 - 1 else b.2

theorem row_eq (gs : List Gr) (ac cc : Nat) (b : Nat × Nat) :
    row gs ac cc b = (min (b.1 + min ac cc) (cap gs b), min (b.1 + max ac cc) (cap gs b)) := by
  -- the right side as `(min x y, max x y)` of the two capped edges
  rw [← Nat.add_min_add_left, ← Nat.add_max_add_left, Nat.min_max_distrib_right, Nat.min_min_distrib_right]
  exact ordered_eq _ _

theorem row_ordered (gs : List Gr) (ac cc : Nat) (b : Nat × Nat) : (row gs ac cc b).1 ≤ (row gs ac cc b).2 := by
  show (ordered _ _).1 ≤ (ordered _ _).2
  rw [ordered_eq]; exact Nat.min_le_max _ _

/-- a row is at most as wide as the rectangle -/
theorem row_width (gs : List Gr) (ac cc : Nat) (b : Nat × Nat) :
    (row gs ac cc b).2 - (row gs ac cc b).1 ≤ max ac cc - min ac cc := by
  rw [row_eq]
  exact Nat.le_trans (Nat.min_sub_min_le ..) (Nat.le_of_eq (Nat.add_sub_add_left ..))

theorem row_le_cap (gs : List Gr) (ac cc : Nat) (b : Nat × Nat) : (row gs ac cc b).2 ≤ cap gs b := by
  rw [row_eq]; exact Nat.min_le_right _ _

theorem cap_bounds (gs : List Gr) (b : Nat × Nat) (hb : b.1 ≤ b.2) : b.1 ≤ cap gs b ∧ cap gs b ≤ b.2 := by
  unfold cap
  split
  · next h =>
    rw [Bool.and_eq_true, decide_eq_true_eq] at h
    exact ⟨Nat.le_sub_one_of_lt h.1, Nat.sub_le _ _⟩
  · exact ⟨hb, Nat.le_refl _⟩

theorem row_within (gs : List Gr) (ac cc : Nat) (b : Nat × Nat) (hb : b.1 ≤ b.2) :
    b.1 ≤ (row gs ac cc b).1 ∧ (row gs ac cc b).2 ≤ b.2 := by
  obtain ⟨h1, h2⟩ := cap_bounds gs b hb
  refine ⟨?_, Nat.le_trans (row_le_cap gs ac cc b) h2⟩
  rw [row_eq]
  exact Nat.le_min.mpr ⟨Nat.le_add_right _ _, h1⟩

/-- **a row never takes its line's terminator** -/
theorem row_excludes_terminator (gs : List Gr) (ac cc : Nat) (b : Nat × Nat)
    (hb : b.1 < b.2) (hnl : isNlAtGs gs (b.2 - 1) = true) : (row gs ac cc b).2 ≤ b.2 - 1 := by
  have hc : cap gs b = b.2 - 1 := if_pos (by rw [Bool.and_eq_true, decide_eq_true_eq]; exact ⟨hb, hnl⟩)
  exact hc ▸ row_le_cap gs ac cc b

/-- every window of a block selection is the row of a line between the anchor's and the cursor's -/
theorem windows_are_rows (gs : List Gr) (anchor cur : Nat) (ws : List (Nat × Nat)) (h : windows gs anchor cur = some ws) :
    ∃ ac cc, ∀ w ∈ ws, ∃ ln b, lineBounds gs ln = some b ∧ w = row gs ac cc b ∧
      min (cursorLine ⟨gs, cur, false⟩) (indexLine gs anchor) ≤ ln ∧ ln ≤ max (cursorLine ⟨gs, cur, false⟩) (indexLine gs anchor) := by
  unfold windows at h
  split at h
  · next cc0 ac0 _ _ =>
    cases h
    refine ⟨if cc0 ≥ ac0 then ac0 else ac0 + 1, if cc0 ≥ ac0 then cc0 + 1 else cc0, fun w hw => ?_⟩
    obtain ⟨ln, hln, hw⟩ := List.mem_filterMap.mp hw
    obtain ⟨b, hb, rfl⟩ := Option.map_eq_some_iff.mp hw
    obtain ⟨h1, h2⟩ := List.mem_range'_1.mp hln
    -- the range is `min ..= max`
    rw [← Nat.add_assoc, Nat.add_sub_cancel' (Nat.min_le_max _ _)] at h2
    exact ⟨ln, b, hb, rfl, h1, Nat.le_of_lt_succ h2⟩
  · cases h

/-- **A block selection lies inside the text**: every window is ordered and ends at or before the end of the
text (what `selected_content` and the field slice rely on). -/
theorem windows_inside_text (gs : List Gr) (anchor cur : Nat) (ws : List (Nat × Nat)) (h : windows gs anchor cur = some ws) :
    ∀ w ∈ ws, w.1 ≤ w.2 ∧ w.2 ≤ gs.length := by
  obtain ⟨ac, cc, hr⟩ := windows_are_rows gs anchor cur ws h
  intro w hw
  obtain ⟨ln, b, hb, rfl, _⟩ := hr w hw
  obtain ⟨h1, h2⟩ := Lines.lineBounds_le hb
  exact ⟨row_ordered gs ac cc b, Nat.le_trans (row_within gs ac cc b h1).2 h2⟩

theorem windows_ordered (gs : List Gr) (anchor cur : Nat) (ws : List (Nat × Nat)) (h : windows gs anchor cur = some ws) :
    ∀ w ∈ ws, w.1 ≤ w.2 :=
  fun w hw => (windows_inside_text gs anchor cur ws h w hw).1

/-- `abcd` / `wxyz` unterminated: the block from `a` to `z` takes both lines whole (the last character of
the unterminated last line included) -/
example : windows ("abcd\nwxyz".toList.map (fun c => [c])) 0 8 = some [(0, 4), (5, 9)] := by decide +kernel
/-- terminated: the same, and the final newline stays out -/
example : windows ("abcd\nwxyz\n".toList.map (fun c => [c])) 0 8 = some [(0, 4), (5, 9)] := by decide +kernel
/-- a corner on a terminator keeps its column (fix 673f6a4) -/
example : windows ("q\n42\n".toList.map (fun c => [c])) 0 1 = some [(0, 1)] := by decide +kernel
example : windowsOldCorner ("q\n42\n".toList.map (fun c => [c])) 0 1 = some [(0, 0)] := by decide +kernel
/-- a block between two empty lines keeps the text between them -/
example : windows ("\nx y\n\n".toList.map (fun c => [c])) 0 5 = some [(0, 0), (1, 2), (5, 5)] := by decide +kernel
example : windowsOldCorner ("\nx y\n\n".toList.map (fun c => [c])) 0 5 = some [(0, 0), (1, 1), (5, 5)] := by decide +kernel
/-- short lines in between give short or empty rows -/
example : windows ("abc\n\nxyz\n".toList.map (fun c => [c])) 1 7 = some [(1, 3), (4, 4), (6, 8)] := by decide +kernel

end Vicut.C01Block
