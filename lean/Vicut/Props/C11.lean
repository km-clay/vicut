/-
C11 — splitting keys at command boundaries changes nothing; flags start in Normal mode.
Parametric in the key engine: the theorems hold for any per-key transition, any end-of-argument
flush and any reset, given only what "complete command" means (it leaves nothing open).
-/
import Vicut.Model.Session
import Vicut.Lemmas.Basics

namespace Vicut.C11
open Vicut

variable {σ κ : Type}

theorem keys_append (S : KeySys σ κ) (s : σ) (a b : List κ) : S.keys s (a ++ b) = S.keys (S.keys s a) b :=
  List.foldl_append

theorem complete_flatten (S : KeySys σ κ) (cmds : List (List κ)) (hc : ∀ c ∈ cmds, S.Complete c) :
    S.Complete cmds.flatten := by
  intro s hs
  rw [KeySys.keys, List.foldl_flatten]
  exact List.foldlRecOn cmds _ hs fun s hs c h => hc c h s hs

theorem runArg_complete (S : KeySys σ κ) (keep : Bool) {ks : List κ} (hc : S.Complete ks)
    (s : σ) (hs : S.Settled s) : S.runArg keep s ks = S.keys s ks := by
  obtain ⟨hf, hr⟩ := hc s hs
  cases keep
  · exact (congrArg S.reset hf).trans hr
  · exact hf

theorem runArgs_complete (S : KeySys σ κ) (keep : Bool) (args : List (List κ)) (hc : ∀ a ∈ args, S.Complete a)
    (s : σ) (hs : S.Settled s) :
    S.runArgs keep s args = S.keys s args.flatten ∧ S.Settled (S.runArgs keep s args) := by
  induction args generalizing s with
  | nil => exact ⟨rfl, hs⟩
  | cons a rest ih =>
    rw [List.forall_mem_cons] at hc
    -- `runArgs` begins by running the argument `a`, which is typing its keys
    rw [List.flatten_cons, keys_append, ← runArg_complete S keep hc.1 s hs]
    exact ih hc.2 _ (runArg_complete S keep hc.1 s hs ▸ hc.1 s hs)

/-- **Split invariance**: however a sequence of complete commands is grouped into arguments, the result
is the state reached by typing all keys in one go. `groups` is the grouping: each group is the list of
commands given in one argument. Holds with and without `--keep-mode`. -/
theorem split_invariance (S : KeySys σ κ) (keep : Bool) (groups : List (List (List κ)))
    (hc : ∀ c ∈ groups.flatten, S.Complete c) (s : σ) (hs : S.Settled s) :
    S.runArgs keep s (groups.map List.flatten) = S.keys s groups.flatten.flatten ∧
    S.Settled (S.runArgs keep s (groups.map List.flatten)) := by
  rw [List.flatten_flatten]
  refine runArgs_complete S keep _ (fun a ha => ?_) s hs
  obtain ⟨g, hg, rfl⟩ := List.mem_map.mp ha
  exact complete_flatten S g fun c hcg => hc c (List.mem_flatten.mpr ⟨g, hg, hcg⟩)

/-- Any two ways of splitting the same command sequence give the same state. -/
theorem all_splits_agree (S : KeySys σ κ) (k1 k2 : Bool) (g1 g2 : List (List (List κ)))
    (h : g1.flatten = g2.flatten) (hc : ∀ c ∈ g1.flatten, S.Complete c) (s : σ) (hs : S.Settled s) :
    S.runArgs k1 s (g1.map List.flatten) = S.runArgs k2 s (g2.map List.flatten) := by
  rw [(split_invariance S k1 g1 hc s hs).1, (split_invariance S k2 g2 (h ▸ hc) s hs).1, h]

/-- Later arguments (fields) see the same state too: appending any further arguments to two splittings. -/
theorem later_fields_agree (S : KeySys σ κ) (keep : Bool) (g1 g2 : List (List (List κ))) (later : List (List κ))
    (h : g1.flatten = g2.flatten) (hc : ∀ c ∈ g1.flatten, S.Complete c) (s : σ) (hs : S.Settled s) :
    S.runArgs keep s (g1.map List.flatten ++ later) = S.runArgs keep s (g2.map List.flatten ++ later) := by
  simp only [KeySys.runArgs, List.foldl_append]
  exact congrArg (List.foldl (S.runArg keep) · later) (all_splits_agree S keep keep g1 g2 h hc s hs)

/-- States of an editor with a mode component; `reset` installs the fresh normal mode and may adjust the
editor part (cursor step-back, clamp) depending on the mode it leaves. -/
structure ModeSys (ε μ κ : Type) where
  step : ε × μ → κ → ε × μ
  flush : ε × μ → ε × μ
  leave : μ → ε → ε          -- what leaving mode `m` does to the editor (set_normal_mode's editor part)
  fresh : μ                   -- `ViNormal::new()`

def ModeSys.toKeySys {ε μ κ : Type} (M : ModeSys ε μ κ) : KeySys (ε × μ) κ :=
  { step := M.step, flush := M.flush, reset := fun s => (M.leave s.2 s.1, M.fresh) }

/-- **Without --keep-mode every argument starts in the fresh normal mode**: whatever the previous
argument left open (pending count, register, operator, Insert/Visual/Ex mode), the mode component after
it is `ViNormal::new()`. -/
theorem arg_starts_fresh {ε μ κ : Type} (M : ModeSys ε μ κ) (s : ε × μ) (ks : List κ) :
    (M.toKeySys.runArg false s ks).2 = M.fresh := rfl

/-- Hence the next argument depends on the previous one only through the editor part it left. -/
theorem next_arg_sees_only_editor {ε μ κ : Type} (M : ModeSys ε μ κ) (s1 s2 : ε × μ) (k1 k2 next : List κ)
    (h : (M.toKeySys.runArg false s1 k1).1 = (M.toKeySys.runArg false s2 k2).1) :
    M.toKeySys.runArg false (M.toKeySys.runArg false s1 k1) next
      = M.toKeySys.runArg false (M.toKeySys.runArg false s2 k2) next :=
  congrArg (fun e => M.toKeySys.runArg false (e, M.fresh) next) h

/-- With --keep-mode the two arguments `[a, b]` are the one argument `a ++ b`, provided the flush at the end
of `a` changes nothing (`hf`: `a` leaves no Ex or search text pending). -/
theorem keep_mode_is_concatenation {ε μ κ : Type} (M : ModeSys ε μ κ) (s : ε × μ) (a b : List κ)
    (hf : M.flush (M.toKeySys.keys s a) = M.toKeySys.keys s a) :
    M.toKeySys.runArgs true s [a, b] = M.toKeySys.runArg true s (a ++ b) := by
  show M.flush (M.toKeySys.keys (M.flush (M.toKeySys.keys s a)) b) = M.flush (M.toKeySys.keys s (a ++ b))
  rw [hf, keys_append]

/-- Editor = a counter, mode = pending count; key `some d` is a digit, `none` is "add". -/
def toy : ModeSys Nat (Option Nat) (Option Nat) :=
  { step := fun s k => match k with
      | some d => (s.1, some d)
      | none => (s.1 + s.2.getD 1, none),
    flush := id, leave := fun _ e => e, fresh := none }

example : toy.toKeySys.Complete [some 3, none] := by
  intro s hs
  simp [KeySys.Settled, KeySys.keys, ModeSys.toKeySys, toy] at *
example : toy.toKeySys.Settled (5, none) := by simp [KeySys.Settled, ModeSys.toKeySys, toy]
/-- the pending count of an unfinished argument is dropped: "3" then "add" adds 1, not 3 -/
example : toy.toKeySys.runArgs false (0, none) [[some 3], [none]] = (1, none) := by rfl
example : toy.toKeySys.runArgs true (0, none) [[some 3], [none]] = (3, none) := by rfl

end Vicut.C11
