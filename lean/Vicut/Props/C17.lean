/-
C17 — vic programs compute what their source says.
The reference interpreter (Model/Vic.lean) *is* the specification of the core; the run compares the
real `vicut '<script>'` with it on generated programs. The theorems here are about the interpreter:
operators are applied left to right, and after a block the visible variables are those from before it.
-/
import Vicut.Model.Vic

namespace Vicut.C17
open Vicut.Vic

/-- The tree the parser builds for `a op₁ b op₂ c …` (`Expr::from_rule`, bin_expr arm). -/
def mkChain (a : AExpr) (rest : List (BinOp × AExpr)) : AExpr :=
  rest.foldl (fun acc p => .bin p.1 acc p.2) a

/-- The operators applied left to right to evaluated operands. -/
def applyChain (a : Int) : List (BinOp × Int) → Except String Int
  | [] => .ok a
  | (op, b) :: rest =>
    match binOp op a b with
    | .error e => .error e
    | .ok r => applyChain r rest

theorem evalA_mkChain (env : Env) (rest : List (BinOp × AExpr × Int))
    (hv : ∀ t ∈ rest, evalA env t.2.1 = .ok t.2.2) (a : AExpr) :
    evalA env (mkChain a (rest.map (fun t => (t.1, t.2.1)))) =
      match evalA env a with
      | .error e => .error e
      | .ok va => applyChain va (rest.map (fun t => (t.1, t.2.2))) := by
  induction rest generalizing a with
  | nil =>
    show evalA env a = _
    cases evalA env a <;> rfl
  | cons p rest ih =>
    have ⟨hp, hr⟩ := List.forall_mem_cons.mp hv
    show evalA env (mkChain (.bin p.1 a p.2.1) _) = _
    rw [ih hr, evalA, hp]
    cases evalA env a <;> rfl

/-- **Integer arithmetic is evaluated left to right, without precedence**, for operands that evaluate
(each `(op, e, v)` with `e` evaluating to `v`). -/
theorem arith_left_to_right (env : Env) (a : AExpr) (va : Int) (rest : List (BinOp × AExpr × Int))
    (ha : evalA env a = .ok va) (hv : ∀ t ∈ rest, evalA env t.2.1 = .ok t.2.2) :
    evalA env (mkChain a (rest.map (fun t => (t.1, t.2.1)))) = applyChain va (rest.map (fun t => (t.1, t.2.2))) := by
  rw [evalA_mkChain env rest hv, ha]

/-- `1 + 2 * 3` is 9, not 7. -/
example : evalA {} (mkChain (.int 1) [(.add, .int 2), (.mul, .int 3)]) = .ok 9 := by rfl

def keys (f : Frame) : List String := f.map Prod.fst

/-- Same visible variable names, frame by frame. -/
def Same (a b : Env) : Prop := a.frames.map keys = b.frames.map keys

theorem Same.refl (a : Env) : Same a a := rfl
theorem Same.trans {a b c : Env} (h1 : Same a b) (h2 : Same b c) : Same a c := Eq.trans h1 h2

theorem Same.pop {a b : Env} (h : Same a b) : Same a.pop b.pop := by
  simpa [Same, Env.pop, List.map_tail] using congrArg List.tail h

theorem same_pop_declare (env : Env) (x : String) (v : Val) :
    Same env.pop { env with frames := declare env.frames x v }.pop := by
  unfold Same Env.pop declare
  cases env.frames <;> rfl

theorem frameSet_keys (f : Frame) (x : String) (v : Val) : keys (frameSet f x v) = keys f := by
  unfold keys frameSet
  rw [List.map_map]
  refine List.map_congr_left fun p _ => ?_
  show (if p.1 == x then (p.1, v) else p).1 = p.1
  split <;> rfl

theorem assignFrames_keys {fr : List Frame} {x : String} {v : Val} {fr' : List Frame}
    (h : assignFrames fr x v = some fr') : fr.map keys = fr'.map keys := by
  fun_induction assignFrames fr x v generalizing fr'
  · cases h
  · cases h
    rw [List.map_cons, List.map_cons, frameSet_keys]
  · next ih =>
    obtain ⟨r, hr, rfl⟩ := Option.map_eq_some_iff.mp h
    rw [List.map_cons, List.map_cons, ih hr]

theorem same_of_assign {env : Env} {x : String} {v : Val} {fr : List Frame}
    (h : assignFrames env.frames x v = some fr) : Same env { env with frames := fr } :=
  assignFrames_keys h

section
variable {ε α β : Type} {P Q : α → Prop} {x : Except ε α}

/-- `P` holds of what a run yields, if it does not fail. -/
def Ok (P : α → Prop) : Except ε α → Prop
  | .ok a => P a
  | .error _ => True

theorem Ok.elim {a : α} (h : Ok P x) (e : x = .ok a) : P a := by
  subst e
  exact h

theorem Ok.imp (h : Ok P x) (f : ∀ a, P a → Q a) : Ok Q x := by
  cases x with
  | error e => trivial
  | ok a => exact f a h

theorem Ok.map {f : β → α} (h : ∀ b, P (f b)) (x : Except ε β) : Ok P (x.map f) := by
  cases x with
  | error e => trivial
  | ok b => exact h b

end

/-- One clause per function of the interpreter. `stmt` and `block` speak of `Same a.pop b.pop`, the same names below
the innermost frame: this is what a statement keeps, since `let` binds in the innermost frame only; and for a body
run in a pushed frame, `Same (pushed env).pop env1.pop` unfolds to `Same env env1.pop`, which is how `block` serves
calls, scoped blocks and `for`. -/
structure Inv (fuel : Nat) : Prop where
  expr : ∀ {env e}, Ok (fun p => Same env p.2) (evalExpr fuel env e)
  args : ∀ {env as}, Ok (fun p => Same env p.2) (evalArgs fuel env as)
  call : ∀ {env f vs}, Ok (fun p => Same env p.2) (callFn fuel env f vs)
  stmt : ∀ {env s}, Ok (fun p => Same env.pop p.1.pop) (execStmt fuel env s)
  block : ∀ {env ss}, Ok (fun p => Same env.pop p.1.pop) (execBlock fuel env ss)
  scope : ∀ {env ss}, Ok (fun p => Same env p.1) (execScoped fuel env ss)
  ifs : ∀ {env cs els}, Ok (fun p => Same env p.1) (execIf fuel env cs els)
  loop : ∀ {env neg c b}, Ok (fun p => Same env p.1) (execWhile fuel env neg c b)
  iter : ∀ {env x items b}, Ok (fun p => Same env p.1) (execFor fuel env x items b)

/-- Each function by its own cases: the failing leaves at once, the others in the order of the definition.
Where a call is made the fuel is `n + 1`, and `n + 1 - 1` reduces to `n`. -/
theorem Inv.step {fuel : Nat} (ih : Inv (fuel - 1)) : Inv fuel where
  expr := @fun env e => by
    fun_cases evalExpr fuel env e
    any_goals exact trivial
    · exact Ok.map (fun _ => .refl _) _
    · exact .refl _
    · exact Ok.map (fun _ => .refl _) _
    · exact .refl _
    · exact .refl _
    · exact .refl _
    next hf => exact same_of_assign hf
    · exact Ok.map (fun _ => .refl _) _
    · exact .refl _
    next ha => exact ih.call.imp fun _ => (ih.args.elim ha).trans
  args := @fun env as => by
    fun_cases evalArgs fuel env as
    any_goals exact trivial
    · exact .refl _
    next he _ _ ha => exact (ih.expr.elim he).trans (ih.args.elim ha :)
  call := @fun env f vs => by
    fun_cases callFn fuel env f vs
    any_goals exact trivial
    next hb => exact ih.block.elim hb  -- the pushed frame is popped: see `Inv`
  stmt := @fun env s => by
    fun_cases execStmt fuel env s
    any_goals exact trivial
    next he => exact (ih.expr.elim he).pop.trans (same_pop_declare _ _ _)
    next he _ hf => exact ((ih.expr.elim he).trans (same_of_assign hf)).pop
    next hf => exact (same_of_assign hf).pop
    next hf he => exact ((ih.expr.elim he).trans (same_of_assign hf)).pop
    next ha => exact (ih.args.elim ha).pop
    · exact ih.ifs.imp fun _ => .pop
    · exact ih.loop.imp fun _ => .pop
    next he _ _ => exact ih.iter.imp fun _ s => ((ih.expr.elim he).trans s).pop
    next hf he => exact ((ih.expr.elim he).trans (same_of_assign hf)).pop
    next hf he => exact ((ih.expr.elim he).trans (same_of_assign hf)).pop
    next he => exact (ih.expr.elim he).pop
    · exact .refl _
    next he => exact (ih.expr.elim he).pop
    next he => exact (ih.expr.elim he).pop
  block := @fun env ss => by
    fun_cases execBlock fuel env ss
    any_goals exact trivial
    · exact .refl _
    next hs => exact ih.stmt.elim hs
    next hs => exact ih.block.imp fun _ => (ih.stmt.elim hs).trans
  scope := @fun env ss => by
    fun_cases execScoped fuel env ss
    any_goals exact trivial
    next hb => exact ih.block.elim hb
  ifs := @fun env cs els => by
    fun_cases execIf fuel env cs els
    any_goals exact trivial
    · exact .refl _
    · exact ih.scope
    · exact ih.scope
    · exact ih.ifs
  loop := @fun env neg c b => by
    fun_cases execWhile fuel env neg c b
    any_goals exact trivial
    next hs => exact ih.scope.elim hs
    next hs => exact ih.loop.imp fun _ => (ih.scope.elim hs).trans
    · exact .refl _
  iter := @fun env x items b => by
    fun_cases execFor fuel env x items b
    any_goals exact trivial
    · exact .refl _
    next hb => exact ih.block.elim hb
    next hb => exact ih.iter.imp fun _ => (ih.block.elim hb).trans

theorem inv_all (fuel : Nat) : Inv fuel := by
  induction fuel with
  | zero => constructor <;> exact trivial
  | succ n ih => exact .step ih

/-- **Block scoping**: after an `if` / `elif` / `else`, `while`, `until` or `for` statement, whatever its
bodies do, the visible variable names are frame by frame those from before it: a variable declared inside
is not visible after it, and a name that shadowed an outer variable is gone (`Same` speaks of names, not
values). -/
theorem block_scoping (fuel : Nat) (env env' : Env) (r : Option Val) :
    (∀ cs els, execIf fuel env cs els = .ok (env', r) → Same env env') ∧
    (∀ neg c b, execWhile fuel env neg c b = .ok (env', r) → Same env env') ∧
    (∀ x items b, execFor fuel env x items b = .ok (env', r) → Same env env') :=
  ⟨fun _ _ => (inv_all fuel).ifs.elim, fun _ _ _ => (inv_all fuel).loop.elim, fun _ _ _ => (inv_all fuel).iter.elim⟩

/-- A function call leaves the caller's variables in place (parameters and locals of the callee are gone). -/
theorem call_scoping (fuel : Nat) (env : Env) (f : String) (vs : List Val) (v : Val) (env' : Env)
    (h : callFn fuel env f vs = .ok (v, env')) : Same env env' := (inv_all fuel).call.elim h

/-- A name that is not visible before a block statement is not visible after it. -/
theorem not_visible_after (env env' : Env) (h : Same env env') (x : String)
    (hx : ∀ f ∈ env.frames, x ∉ keys f) : ∀ f ∈ env'.frames, x ∉ keys f := by
  intro f hf
  obtain ⟨g, hg, hk⟩ := List.mem_map.mp (h ▸ List.mem_map_of_mem hf : keys f ∈ env.frames.map keys)
  exact hk ▸ hx g hg

example : runProgram 100 [.let_ "x" (.arith (.int 1)),
    .ifs [(.cmp .lt (.var "x") (.int 2), [.let_ "y" (.arith (.int 5)), .assign "x" (.arith (.var "y"))])] none,
    .echo [.var "x"]] = .ok ["5"] := by rfl
example : (runProgram 100 [.ifs [(.lit true, [.let_ "y" (.arith (.int 5))])] none, .echo [.var "y"]]) = .error "Variable y not found" := by rfl

end Vicut.C17
