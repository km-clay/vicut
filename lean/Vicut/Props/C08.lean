/-
C08 — edits are local and conserve text: the verbs (`Verbs`), and the motions and text objects that feed them
(`Motions`, `Words`, `Paragraphs`, `Delims`).
-/
import Vicut.Props.C08.Verbs
import Vicut.Props.C08.Motions
import Vicut.Props.C08.Words
import Vicut.Props.C08.Paragraphs
import Vicut.Props.C08.Delims
