/-
C14 — all output formats carry the same records: first what a run of flags puts into the records, then
each renderer in turn.
-/
import Vicut.Model.JsonSpec
import Vicut.Model.Exec
import Vicut.Lemmas.Basics

namespace Vicut.C14
open Vicut

section
variable {σ : Type}

/-- `-n` closes the current record (if it has any field) and restarts numbering at 1. -/
theorem next_restarts (c : Ctx) :
    c.breakGroup.fieldNum = 0 ∧ c.breakGroup.fields = [] ∧
    c.breakGroup.fmtLines = (if c.fields.isEmpty then c.fmtLines else c.fmtLines ++ [c.fields]) := by
  simp [Ctx.breakGroup]

theorem cut_pushes (E : Ed σ) (keep : Bool) (name : Option Str) (k : Str) (st : σ × Ctx) (f : Str)
    (h : (E.readField k st.1).2 = .ok f) :
    (execCmd E keep (.cut name k) st).2
      = { st.2 with fieldNum := st.2.fieldNum + 1,
                    fields := st.2.fields ++ [(name.getD (natStr (st.2.fieldNum + 1)), f)] } := by
  simp [execCmd, Ctx.pushField, h]

/-- `-m` never touches the records. -/
theorem move_keeps_ctx (E : Ed σ) (keep : Bool) (k : Str) (st : σ × Ctx) :
    (execCmd E keep (.move k) st).2 = st.2 := by
  simp [execCmd]

theorem afterCmd_ctx (E : Ed σ) (keep : Bool) (st : σ × Ctx) : (afterCmd E keep st).2 = st.2 := by
  unfold afterCmd; split <;> rfl

/-- Keys of a run of `-c` flags after `i` fields: the given name, else the 1-based position. -/
def keysFrom (i : Nat) : List (Option Str) → List Str
  | [] => []
  | n :: ns => n.getD (natStr (i + 1)) :: keysFrom (i + 1) ns

/-- **Numbering.** A run of `-c` flags whose reads all succeed produces the keys 1..k (names
replacing numbers where given), for every editor. -/
theorem numbering (E : Ed σ) (keep : Bool) (hok : ∀ k s, ∃ f, (E.readField k s).2 = .ok f)
    (cuts : List (Option Str × Str)) (st : σ × Ctx) :
    let out := execSeq E keep (cuts.map (fun x => Cmd.cut x.1 x.2)) st
    out.2.fields.map Prod.fst = st.2.fields.map Prod.fst ++ keysFrom st.2.fieldNum (cuts.map Prod.fst) ∧
    out.2.fieldNum = st.2.fieldNum + cuts.length ∧ out.2.fmtLines = st.2.fmtLines := by
  induction cuts generalizing st with
  | nil => exact ⟨(List.append_nil _).symm, rfl, rfl⟩
  | cons x xs ih =>
    obtain ⟨f, hf⟩ := hok x.2 st.1
    obtain ⟨h1, h2, h3⟩ := ih (afterCmd E keep (execCmd E keep (.cut x.1 x.2) st))
    rw [afterCmd_ctx, cut_pushes E keep x.1 x.2 st f hf] at h1 h2 h3
    rw [List.map_append, List.append_assoc] at h1
    -- the goal is these, up to the equations of `execSeq`, `keysFrom`, `map` and `length` on a cons
    exact ⟨h1, h2.trans (Nat.add_right_comm ..), h3⟩

end

theorem trimFields_keeps_names (recs : Records) :
    (trimFields recs).map (·.map Prod.fst) = recs.map (·.map Prod.fst) := by
  simp [trimFields, Function.comp_def]

/-- Trimming removes only whitespace, only at the two ends. -/
theorem trim_is_trim (s : Str) :
    ∃ l r, s = l ++ trimStr s ++ r ∧ (∀ c ∈ l, isRustWhitespace c = true) ∧ (∀ c ∈ r, isRustWhitespace c = true) := by
  refine ⟨s.takeWhile isRustWhitespace, ((trimStart s).reverse.takeWhile isRustWhitespace).reverse, ?_,
    fun c hc => List.all_eq_true.mp List.all_takeWhile c hc,
    fun c hc => List.all_eq_true.mp List.all_takeWhile c (List.mem_reverse.mp hc)⟩
  -- both ends are `takeWhile ++ dropWhile`, the right one on the reversed text
  rw [List.append_assoc, trimStr, trimEnd, ← List.reverse_append, List.takeWhile_append_dropWhile,
    List.reverse_reverse]
  exact List.takeWhile_append_dropWhile.symm

/-- With no `-c` at all the final buffer is printed verbatim. -/
theorem sentinel_verbatim (d b : Str) : fmtStandard d [[(['0'], b)]] = b := by
  simp [fmtStandard]

/-- Otherwise: one line per record, the field *values* joined by the delimiter, a newline added
unless the record already ends with one. -/
theorem standard_is_join (d : Str) (recs : Records) (h : noFieldsExtracted recs = false) :
    fmtStandard d recs
      = (recs.map (fun r => ensureNl (joinWith d (r.map Prod.snd)))).flatten := by
  unfold fmtStandard
  split
  · rename_i n v
    have : (n == ['0']) = false := by simpa [noFieldsExtracted] using h
    simp [this]
  · rfl

theorem joinWith_eq_intercalate (d : Str) (xs : List Str) : joinWith d xs = d.intercalate xs := by
  induction xs with
  | nil => simp [joinWith, List.intercalate]
  | cons x xs ih =>
    cases xs with
    | nil => simp [joinWith, List.intercalate]
    | cons y ys =>
      simp only [joinWith, List.intercalate] at ih ⊢
      simp [ih, List.intersperse]

theorem ensureNl_ends (r : Str) : (ensureNl r).getLast? = some '\n' := by
  unfold ensureNl; split <;> simp_all

theorem ensureNl_prefix (r : Str) : ensureNl r = r ∨ ensureNl r = r ++ ['\n'] := by
  unfold ensureNl; split <;> simp

/-- A numbered field never collides with the sentinel name `0`: numbering starts at 1. -/
theorem natStr_ne_zero_str (n : Nat) (h : 0 < n) : natStr n ≠ ['0'] := by
  intro heq
  -- reading the digits back gives `n`, and 0 for `['0']`
  have hn : Nat.ofDigitChars 10 (natStr n) 0 = n := by
    rw [natStr, Nat.toList_repr, Nat.ofDigitChars_ten_toDigits]
  rw [heq] at hn
  exact Nat.ne_of_lt h hn

/-- Characters other than `\` and `{` are copied. -/
theorem tpl_plain (r : Record) (t acc : Str) (h : ∀ c ∈ t, c ≠ '\\' ∧ c ≠ '{') :
    tplGo r none t acc = .ok (acc ++ t) := by
  induction t generalizing acc with
  | nil => simp [tplGo]
  | cons c cs ih =>
    have hc := h c (by simp)
    cases cs with
    | nil => simp [tplGo, hc.1]
    | cons d ds =>
      rw [tplGo]
      simp only [hc.1, hc.2, false_and, ↓reduceIte]
      rw [ih _ (fun x hx => h x (by simp [hx]))]
      simp

theorem tpl_open (r : Record) (rest acc : Str) :
    tplGo r none ('{' :: '{' :: rest) acc = tplGo r (some []) rest acc := by
  rw [tplGo]; simp

theorem tpl_close (r : Record) (nm rest acc : Str) :
    tplGo r (some nm) ('}' :: '}' :: rest) acc
      = match lookupField r nm with
        | some f => tplGo r none rest (acc ++ f)
        | none => .error nm := by
  rw [tplGo]; simp only [Char.reduceEq, and_self, ↓reduceIte]; rfl

theorem tpl_name (r : Record) (name rest nm acc : Str) (h : ∀ c ∈ name, c ≠ '\\' ∧ c ≠ '}') :
    tplGo r (some nm) (name ++ rest) acc = tplGo r (some (nm ++ name)) rest acc := by
  induction name generalizing nm with
  | nil => simp
  | cons c cs ih =>
    have hc := h c (by simp)
    have ih := ih (nm ++ [c]) (fun x hx => h x (by simp [hx]))
    rw [List.append_assoc, List.singleton_append] at ih
    rw [← ih, List.cons_append]
    cases hcs : cs ++ rest with
    | nil => simp [tplGo, hc.1]
    | cons d ds => rw [tplGo]; simp only [hc.1, hc.2, false_and, ↓reduceIte]

/-- **Interpolation.** `{{name}}` is replaced by the first field of that name. -/
theorem template_interpolates (r : Record) (name rest acc f : Str)
    (h : ∀ c ∈ name, c ≠ '\\' ∧ c ≠ '}') (hf : lookupField r name = some f) :
    tplGo r none ('{' :: '{' :: (name ++ '}' :: '}' :: rest)) acc = tplGo r none rest (acc ++ f) := by
  rw [tpl_open, tpl_name r name _ [] acc h, tpl_close, List.nil_append, hf]

/-- A placeholder naming no captured field is an error, not silently empty. -/
theorem template_unknown_is_error (r : Record) (name rest acc : Str)
    (h : ∀ c ∈ name, c ≠ '\\' ∧ c ≠ '}') (hf : lookupField r name = none) :
    tplGo r none ('{' :: '{' :: (name ++ '}' :: '}' :: rest)) acc = .error name := by
  rw [tpl_open, tpl_name r name _ [] acc h, tpl_close, List.nil_append, hf]

/-- A backslash copies the next character literally. -/
theorem template_escape (r : Record) (e : Char) (rest acc : Str) :
    tplGo r none ('\\' :: e :: rest) acc = tplGo r none rest (acc ++ [e]) := by
  rw [tplGo]; simp

/-- An unclosed `{{name` is not an error: the name text is emitted (without the braces). -/
theorem template_unclosed (r : Record) (name acc : Str) (h : ∀ c ∈ name, c ≠ '\\' ∧ c ≠ '}') :
    tplGo r none ('{' :: '{' :: name) acc = .ok (acc ++ name) := by
  have := tpl_name r name [] [] acc h
  rw [List.append_nil] at this
  rw [tpl_open, this, tplGo, List.nil_append]

theorem hexDigit_spec {n : Nat} (h : n < 16) : unhex (hexDigit n) = some n ∧ 32 ≤ (hexDigit n).toNat :=
  (show ∀ n : Fin 16, unhex (hexDigit n.val) = some n.val ∧ 32 ≤ (hexDigit n.val).toNat by decide +kernel) ⟨n, h⟩

/-- The reader takes back what `jsonEscapeChar` wrote. The cases are the branches of the escape table in the
order they are written: five literal characters, the code points 8 and 12, the other control characters, and
the characters copied as they are. -/
theorem unescape_escapeChar (c : Char) (rest : Str) :
    jsonUnescape (jsonEscapeChar c ++ rest) = (jsonUnescape rest).map (c :: ·) := by
  fun_cases jsonEscapeChar c
  case case1 | case2 | case3 | case4 | case5 =>
    subst c
    rw [jsonUnescape.eq_def]
    rfl
  case case6 h | case7 h =>
    -- only `c.toNat` is known: with `c` written as `Char.ofNat c.toNat`, `h` makes it a literal
    rw [jsonUnescape.eq_def, ← c.ofNat_toNat, h]
    rfl
  case case8 hlt =>
    have hhi : c.toNat / 16 < 16 := Nat.div_lt_of_lt_mul (Nat.lt_trans hlt (by decide))
    have hlo : c.toNat % 16 < 16 := Nat.mod_lt _ (by decide)
    have h0 : unhex '0' = some 0 := by decide
    rw [jsonUnescape.eq_def]
    -- the digits 0, 0, c / 16, c % 16 are read back as the code point of `c`
    simp only [List.cons_append, List.nil_append, ↓reduceIte, h0, (hexDigit_spec hhi).1, (hexDigit_spec hlo).1,
      Nat.zero_mul, Nat.zero_add, Nat.div_add_mod', Char.ofNat_toNat]
  case case9 hq hb _ _ _ _ _ hge =>
    rw [List.singleton_append, jsonUnescape.eq_def]
    simp [hq, hb, hge]

/-- **Round trip.** The JSON string written for a field, whatever it contains, reads back as that field. -/
theorem json_escape_roundtrip (s : Str) : jsonUnescape (jsonEscape s) = some s := by
  induction s with
  | nil => exact jsonUnescape.eq_1
  | cons c cs ih =>
    -- `jsonEscape (c :: cs)` is `jsonEscapeChar c ++ jsonEscape cs` by definition
    exact (unescape_escapeChar c (jsonEscape cs)).trans (congrArg _ ih)

theorem jsonEscapeChar_no_control (x : Char) : ∀ c ∈ jsonEscapeChar x, 32 ≤ c.toNat := by
  fun_cases jsonEscapeChar x
  case case1 | case2 | case3 | case4 | case5 | case6 | case7 => decide
  case case8 hlt =>
    have hhi : x.toNat / 16 < 16 := Nat.div_lt_of_lt_mul (Nat.lt_trans hlt (by decide))
    have hlo : x.toNat % 16 < 16 := Nat.mod_lt _ (by decide)
    simp only [List.forall_mem_cons, (hexDigit_spec hhi).2, (hexDigit_spec hlo).2]
    decide
  case case9 hge =>
    intro c hc
    rw [List.mem_singleton.mp hc]
    exact Nat.le_of_not_lt hge

/-- The encoded text never contains a raw control character. -/
theorem json_escape_no_control (s : Str) : ∀ c ∈ jsonEscape s, 32 ≤ c.toNat := by
  intro c hc
  simp only [jsonEscape, List.mem_flatten, List.mem_map] at hc
  obtain ⟨l, ⟨x, _, rfl⟩, hcl⟩ := hc
  exact jsonEscapeChar_no_control x c hcl

/-- `strLt` is the library's order on `List Char`; the order laws come from there. -/
theorem strLt_iff_lt {a b : Str} : strLt a b = true ↔ a < b := by
  fun_induction strLt a b with
  | case1 => simp
  | case2 => simp
  | case3 => simp
  | case4 x xs y ys h => exact iff_of_true rfl (List.cons_lt_cons_iff.mpr (.inl h))
  | case5 x xs y ys h1 h2 =>
    refine iff_of_false nofun fun h => ?_
    rcases List.cons_lt_cons_iff.mp h with h | ⟨rfl, -⟩
    · exact h1 h
    · exact Nat.lt_irrefl _ h2
  | case6 x xs y ys h1 h2 ih =>
    obtain rfl : x = y := Char.toNat_inj.mp (Nat.le_antisymm (Nat.le_of_not_lt h2) (Nat.le_of_not_lt h1))
    rw [List.cons_lt_cons_iff, ← ih]
    exact ⟨fun h => .inr ⟨rfl, h⟩, fun h => h.elim (absurd · h1) (·.2)⟩

theorem strLt_irrefl (a : Str) : strLt a a = false :=
  Bool.eq_false_iff.mpr fun h => List.lt_irrefl a (strLt_iff_lt.mp h)

def SortedKeys (m : List (Str × Str)) : Prop := m.Pairwise (fun a b => strLt a.1 b.1 = true)

/-- By `rfl` the model's `lookupField`: templates take the first field of a name, JSON keeps the last. -/
def lookup (m : List (Str × Str)) (k : Str) : Option Str := (m.find? (fun kv => kv.1 == k)).map Prod.snd

theorem mem_mapInsert (k v : Str) (m : List (Str × Str)) :
    ∀ kv ∈ mapInsert k v m, kv = (k, v) ∨ kv ∈ m := by
  intro kv
  fun_induction mapInsert k v m with
  | case1 => exact fun h => .inl (List.mem_singleton.mp h)
  | case2 => exact fun h => (List.mem_cons.mp h).imp_right (.tail _)
  | case3 => exact List.mem_cons.mp
  | case4 _ _ _ _ _ ih =>
    rintro (_ | ⟨_, h⟩)
    · exact .inr (.head _)
    · exact (ih h).imp_right (.tail _)

theorem mapInsert_sorted (k v : Str) (m : List (Str × Str)) (hs : SortedKeys m) :
    SortedKeys (mapInsert k v m) := by
  fun_induction mapInsert k v m with
  | case1 => exact List.pairwise_singleton ..
  | case2 k' v' rest heq =>
    obtain rfl : k = k' := by simpa using heq
    exact List.pairwise_cons.mpr (List.pairwise_cons.mp hs)
  | case3 k' v' rest _ hlt =>
    -- `k` in front: below `k'`, so below all after it
    refine List.pairwise_cons.mpr ⟨fun b hb => ?_, hs⟩
    rcases List.mem_cons.mp hb with rfl | hb
    · exact hlt
    · exact strLt_iff_lt.mpr (List.lt_trans (strLt_iff_lt.mp hlt) (strLt_iff_lt.mp ((List.pairwise_cons.mp hs).1 b hb)))
  | case4 k' v' rest hne hnlt ih =>
    -- `k` further back: `k'` is below `k`, the order being total
    obtain ⟨hx, hxs⟩ := List.pairwise_cons.mp hs
    refine List.pairwise_cons.mpr ⟨fun b hb => ?_, ih hxs⟩
    rcases mem_mapInsert k v rest b hb with rfl | h
    · have hle : k' ≤ k := List.not_lt.mp (mt strLt_iff_lt.mpr hnlt)
      rcases List.le_iff_lt_or_eq.mp hle with h' | h'
      · exact strLt_iff_lt.mpr h'
      · exact absurd (by simp [h']) hne
    · exact hx b h

theorem lookup_cons (x : Str × Str) (m : List (Str × Str)) (k : Str) :
    lookup (x :: m) k = if x.1 = k then some x.2 else lookup m k := by
  by_cases h : x.1 = k <;> simp [lookup, h]

theorem lookup_mapInsert (k v : Str) (m : List (Str × Str)) (k' : Str) :
    lookup (mapInsert k v m) k' = if k = k' then some v else lookup m k' := by
  fun_induction mapInsert k v m with
  | case1 => exact lookup_cons ..
  | case2 kx vx rest heq =>
    obtain rfl : k = kx := by simpa using heq
    rw [lookup_cons, lookup_cons]
    split <;> rfl
  | case3 => exact lookup_cons ..
  | case4 kx vx rest hne _ ih =>
    have hne : k ≠ kx := by simpa using hne
    rw [lookup_cons, ih, lookup_cons]
    -- the two tests commute because `k ≠ kx`
    by_cases h1 : kx = k'
    · rw [if_pos h1, if_neg (h1 ▸ hne), if_pos h1]
    · rw [if_neg h1, if_neg h1]

/-- Object keys come out strictly increasing (so no key is written twice). -/
theorem toMap_sorted (r : Record) : SortedKeys (toMap r) :=
  List.foldlRecOn (motive := SortedKeys) r _ List.Pairwise.nil fun m hm f _ => mapInsert_sorted f.1 f.2 m hm

/-- The value under a key is the *last* field of the record with that name. -/
theorem toMap_lookup (r : Record) (k : Str) :
    lookup (toMap r) k = (r.reverse.find? (fun f => f.1 == k)).map Prod.snd := by
  -- a left fold is a right fold over the reversed record, which is what the claim speaks of
  rw [toMap, ← List.foldr_reverse]
  induction r.reverse with
  | nil => rfl
  | cons f fs ih => rw [List.foldr_cons, lookup_mapInsert, ih]; exact (lookup_cons f fs k).symm

/-- `--json` prints nothing at all when there is no record with a field. -/
theorem fmtJson_empty (recs : Records) (h : recs.all (·.isEmpty) = true) : fmtJson recs = [] := by
  simp [fmtJson, h]

/-- Otherwise it is an array with one object per record, in order. -/
theorem fmtJson_shape (recs : Records) (h : recs.all (·.isEmpty) = false) :
    fmtJson recs = ['[', '\n'] ++ joinWith [',', '\n'] (recs.map (fun r => sp 2 ++ jsonObject 2 (toMap r))) ++ ['\n', ']'] := by
  simp [fmtJson, h]

example : fmtStandard " ".toList [[("1".toList, "a".toList), ("2".toList, "b".toList)]] = "a b\n".toList := by decide +kernel
/-- `h` of `standard_is_join`. -/
example : noFieldsExtracted [[("1".toList, "a".toList)]] = false := by decide +kernel
example : jsonEscape "a\"\n".toList = "a\\\"\\n".toList := by decide +kernel
/-- `hf` of `template_interpolates`. -/
example : lookupField [("x".toList, "v".toList)] "x".toList = some "v".toList := by decide +kernel
example : toMap [("b".toList, "1".toList), ("a".toList, "2".toList), ("b".toList, "3".toList)]
    = [("a".toList, "2".toList), ("b".toList, "3".toList)] := by decide +kernel

end Vicut.C14
