/-
C18 — short flags, long flags and vic scripts are the same language. Parser side only (equal `Cmd` trees
execute equally by definition of `execute`): the source's two flag tables put every documented pair in one
arm; in the model a long spelling passes the test of its short one; every arm of the parser commutes with
setting a boolean option, so a flag met now is the option set at the end, and the flag may stand before or
after any self-contained top-level prefix.
-/
import Vicut.Gen.Tables
import Vicut.Lemmas.Args
import Vicut.Lemmas.Basics

namespace Vicut.C18
open Vicut

def documentedPairs : List (String × String) :=
  [("-j", "--json"), ("-t", "--template"), ("-d", "--delimiter"), ("-n", "--next"), ("-r", "--repeat"),
   ("-m", "--move"), ("-c", "--cut"), ("-g", "--global"), ("-v", "--not-global")]

def commandPairs : List (String × String) :=
  [("-n", "--next"), ("-r", "--repeat"), ("-m", "--move"), ("-c", "--cut"), ("-g", "--global"), ("-v", "--not-global")]

/-- Every documented short/long pair is handled by one and the same arm of `Opts::parse`. -/
theorem short_long_same_arm :
    ∀ p ∈ documentedPairs, ∃ arm ∈ Gen.optsParseArms, p.1 ∈ arm ∧ p.2 ∈ arm := by decide +kernel

/-- … and, for the command flags, by one and the same arm of `handle_global_arg`. -/
theorem short_long_same_arm_scope :
    ∀ p ∈ commandPairs, ∃ arm ∈ Gen.globalArgArms, p.1 ∈ arm ∧ p.2 ∈ arm := by decide +kernel

/-- The duplicated table inside scopes knows every command flag the top level knows. -/
theorem scope_table_agrees :
    ∀ p ∈ commandPairs, (∃ a ∈ Gen.optsParseArms, p.1 ∈ a) ∧ (∃ a ∈ Gen.globalArgArms, p.1 ∈ a) := by
  intro p hp
  -- `commandPairs` is, entry by entry, `documentedPairs` without its first three
  have hd : p ∈ documentedPairs := List.mem_of_mem_drop (i := 3) hp
  obtain ⟨a, ha, h, _⟩ := short_long_same_arm p hd
  obtain ⟨b, hb, h', _⟩ := short_long_same_arm_scope p hp
  exact ⟨⟨a, ha, h⟩, b, hb, h'⟩

/-- No flag spelling is claimed by two different arms (so the first-match order is irrelevant). -/
theorem arms_disjoint :
    (Gen.optsParseArms.flatten).Nodup ∧ (Gen.globalArgArms.flatten).Nodup := by decide +kernel

/-- The literal list is the texts `parseArgs` compares its argument with, copied by hand as `String`s; the
statement only compares the generated table with it and says nothing of the parser. -/
theorem model_flags_are_source :
    Gen.optsParseArms.flatten.all (fun f =>
      f ∈ ["--json", "-j", "--trace", "--linewise", "--serial", "--trim-fields", "--keep-mode", "--backup",
           "--global-uses-line-numbers", "--silent", "-i", "--template", "-t", "--delimiter", "-d", "-n", "--next",
           "-r", "--repeat", "-m", "--move", "-c", "--cut", "-v", "--not-global", "-g", "--global"]) = true ∧
    Gen.optsParseArms.flatten.length = 27 :=
  -- the list above is the flattened table itself, entry by entry
  ⟨List.all_eq_true.mpr fun _ h => decide_eq_true h, rfl⟩

/-! ## Long spelling = short spelling, in every parser state

The parser is run on both (see `Lemmas/Args`): the two spellings pass the same tests and so reach the same arm,
which does not look at the text again. -/

theorem long_next (fileOk : Str → Bool) (rest : List Str) (st : PState) :
    parseArgs fileOk (lit "--next" :: rest) st = parseArgs fileOk (lit "-n" :: rest) st := by
  simp [parseArgs.eq_def fileOk (_ :: _), lit_inj]

theorem long_repeat (fileOk : Str → Bool) (rest : List Str) (st : PState) :
    parseArgs fileOk (lit "--repeat" :: rest) st = parseArgs fileOk (lit "-r" :: rest) st := by
  simp [parseArgs.eq_def fileOk (_ :: _), lit_inj]

theorem long_move (fileOk : Str → Bool) (rest : List Str) (st : PState) :
    parseArgs fileOk (lit "--move" :: rest) st = parseArgs fileOk (lit "-m" :: rest) st := by
  simp [parseArgs.eq_def fileOk (_ :: _), lit_inj]

theorem long_cut (fileOk : Str → Bool) (rest : List Str) (st : PState) :
    parseArgs fileOk (lit "--cut" :: rest) st = parseArgs fileOk (lit "-c" :: rest) st := by
  simp [parseArgs.eq_def fileOk (_ :: _), lit_inj]

/-- Stated with the operand: with no pattern following, the flag text itself becomes the pattern of an
empty scope, the one place where the two spellings differ. -/
theorem long_global (fileOk : Str → Bool) (p : Str) (rest : List Str) (st : PState) :
    parseArgs fileOk (lit "--global" :: p :: rest) st = parseArgs fileOk (lit "-g" :: p :: rest) st ∧
    parseArgs fileOk (lit "--not-global" :: p :: rest) st = parseArgs fileOk (lit "-v" :: p :: rest) st := by
  simp [parseArgs.eq_def fileOk (_ :: _), lit_inj, isGlobalFlag.eq_def]

theorem long_json (fileOk : Str → Bool) (rest : List Str) (st : PState) :
    parseArgs fileOk (lit "--json" :: rest) st = parseArgs fileOk (lit "-j" :: rest) st := by
  simp [parseArgs.eq_def fileOk (_ :: _), lit_inj, isGlobalFlag.eq_def]

theorem long_template_delimiter (fileOk : Str → Bool) (rest : List Str) (st : PState) :
    parseArgs fileOk (lit "--template" :: rest) st = parseArgs fileOk (lit "-t" :: rest) st ∧
    parseArgs fileOk (lit "--delimiter" :: rest) st = parseArgs fileOk (lit "-d" :: rest) st := by
  simp [parseArgs.eq_def fileOk (_ :: _), lit_inj, isGlobalFlag.eq_def]

inductive BFlag where
  | json | trace | linewise | serial | trimFields | keepMode | backup | globalLineNumbers | silent | inplace
  deriving Repr, DecidableEq

def BFlag.set (k : BFlag) (o : POpts) : POpts :=
  match k with
  | .json => { o with json := true }
  | .trace => { o with trace := true }
  | .linewise => { o with linewise := true }
  | .serial => { o with serial := true }
  | .trimFields => { o with trimFields := true }
  | .keepMode => { o with keepMode := true }
  | .backup => { o with backup := true }
  | .globalLineNumbers => { o with globalLineNumbers := true }
  | .silent => { o with silent := true }
  | .inplace => { o with inplace := true }

/-- What every commutation of `set` comes from. -/
theorem BFlag.set_eq (k : BFlag) (o : POpts) : k.set o =
    { o with json := k == .json || o.json, trace := k == .trace || o.trace, linewise := k == .linewise || o.linewise,
             serial := k == .serial || o.serial, trimFields := k == .trimFields || o.trimFields,
             keepMode := k == .keepMode || o.keepMode, backup := k == .backup || o.backup,
             globalLineNumbers := k == .globalLineNumbers || o.globalLineNumbers, silent := k == .silent || o.silent,
             inplace := k == .inplace || o.inplace } := by
  cases k <;> rfl

def BFlag.texts : BFlag → List Str
  | .json => [lit "--json", lit "-j"]
  | .trace => [lit "--trace"]
  | .linewise => [lit "--linewise"]
  | .serial => [lit "--serial"]
  | .trimFields => [lit "--trim-fields"]
  | .keepMode => [lit "--keep-mode"]
  | .backup => [lit "--backup"]
  | .globalLineNumbers => [lit "--global-uses-line-numbers"]
  | .silent => [lit "--silent"]
  | .inplace => [lit "-i"]

theorem flag_step (k : BFlag) (fileOk : Str → Bool) (rest : List Str) (o : POpts) :
    ∀ t ∈ k.texts, parseArgs fileOk (t :: rest) ⟨o, []⟩ = parseArgs fileOk rest ⟨k.set o, []⟩ := by
  -- the texts of `k` one by one, the parser is run on literals
  cases k <;>
    simp only [BFlag.texts, List.forall_mem_cons, List.not_mem_nil, false_imp_iff, implies_true, and_true] <;>
    simp [parseArgs.eq_def fileOk (_ :: _), lit_inj, isGlobalFlag.eq_def, BFlag.set]

theorem option_position_partial (fileOk : Str → Bool) (rest : List Str) (o : POpts) :
    parseArgs fileOk (lit "--json" :: rest) ⟨o, []⟩ = parseArgs fileOk rest ⟨{ o with json := true }, []⟩ ∧
    parseArgs fileOk (lit "--linewise" :: rest) ⟨o, []⟩ = parseArgs fileOk rest ⟨{ o with linewise := true }, []⟩ ∧
    parseArgs fileOk (lit "--serial" :: rest) ⟨o, []⟩ = parseArgs fileOk rest ⟨{ o with serial := true }, []⟩ ∧
    parseArgs fileOk (lit "--trim-fields" :: rest) ⟨o, []⟩ = parseArgs fileOk rest ⟨{ o with trimFields := true }, []⟩ ∧
    parseArgs fileOk (lit "--keep-mode" :: rest) ⟨o, []⟩ = parseArgs fileOk rest ⟨{ o with keepMode := true }, []⟩ ∧
    parseArgs fileOk (lit "-i" :: rest) ⟨o, []⟩ = parseArgs fileOk rest ⟨{ o with inplace := true }, []⟩ :=
  ⟨flag_step .json _ _ _ _ (.head _), flag_step .linewise _ _ _ _ (.head _), flag_step .serial _ _ _ _ (.head _),
   flag_step .trimFields _ _ _ _ (.head _), flag_step .keepMode _ _ _ _ (.head _), flag_step .inplace _ _ _ _ (.head _)⟩

theorem option_operand_head (fileOk : Str → Bool) (d : Str) (rest : List Str) (o : POpts) (hd : startsWithDash d = false) :
    parseArgs fileOk (lit "-d" :: d :: rest) ⟨o, []⟩ = parseArgs fileOk rest ⟨{ o with delimiter := some d }, []⟩ ∧
    parseArgs fileOk (lit "-t" :: d :: rest) ⟨o, []⟩ = parseArgs fileOk rest ⟨{ o with template := some d }, []⟩ := by
  simp [parseArgs.eq_def fileOk (_ :: _), lit_inj, isGlobalFlag.eq_def, hd]

/-- Inside an open scope an option flag is rejected, shown for `--json` (the property's "anywhere" is the top level). -/
theorem option_in_scope_rejected (fileOk : Str → Bool) (rest : List Str) (o : POpts) (f : Frame) (fs : List Frame) :
    parseArgs fileOk (lit "--json" :: rest) ⟨o, f :: fs⟩ = .error () := by
  simp [parseArgs.eq_def fileOk (_ :: _), lit_inj, isGlobalFlag.eq_def]

def mapO (k : BFlag) (st : PState) : PState := { st with opts := k.set st.opts }

theorem mapO_stack (k : BFlag) (st : PState) : (mapO k st).stack = st.stack := rfl

theorem set_template (k : BFlag) (o : POpts) (t : Option Str) : ({ k.set o with template := t } : POpts) = k.set { o with template := t } := by
  rw [BFlag.set_eq, BFlag.set_eq]

theorem set_delimiter (k : BFlag) (o : POpts) (t : Option Str) : ({ k.set o with delimiter := t } : POpts) = k.set { o with delimiter := t } := by
  rw [BFlag.set_eq, BFlag.set_eq]

theorem set_comm (k k' : BFlag) (o : POpts) : k.set (k'.set o) = k'.set (k.set o) := by
  simp only [BFlag.set_eq, Bool.or_left_comm]

theorem mapO_opts_set (k k' : BFlag) (st : PState) :
    ({ mapO k st with opts := k'.set (mapO k st).opts } : PState) = mapO k { st with opts := k'.set st.opts } := by
  simp only [mapO]; rw [set_comm]

theorem mapO_pushCmd (k : BFlag) (st : PState) (c : Cmd) : (mapO k st).pushCmd c = mapO k (st.pushCmd c) := by
  unfold PState.pushCmd mapO
  cases st.stack with
  | nil => simp only [BFlag.set_eq]
  | cons f fs => rfl

theorem mapO_closeOne (k : BFlag) (st : PState) : (mapO k st).closeOne = mapO k st.closeOne := by
  obtain ⟨o, stk⟩ := st
  cases stk with
  | nil => rfl
  | cons f fs => exact mapO_pushCmd k ⟨o, fs⟩ f.close

theorem mapO_closeAllAux (k : BFlag) (fs : List Frame) (st : PState) : closeAllAux fs (mapO k st) = mapO k (closeAllAux fs st) := by
  induction fs generalizing st with
  | nil => rfl
  | cons f fs ih => simp only [closeAllAux]; rw [mapO_closeOne, ih]

theorem mapO_closeAll (k : BFlag) (st : PState) : (mapO k st).closeAll = mapO k st.closeAll := by
  unfold PState.closeAll; rw [mapO_stack, mapO_closeAllAux]

theorem mapO_peekBreak (k : BFlag) (st : PState) (rest : List Str) : (mapO k st).peekBreak rest = mapO k (st.peekBreak rest) := by
  unfold PState.peekBreak
  simp only [mapO_stack]
  split
  · split
    · rfl
    · exact mapO_closeAll k st
  · rfl

theorem mapO_push_peek (k : BFlag) (st : PState) (c : Cmd) (rest : List Str) :
    ((mapO k st).pushCmd c).peekBreak rest = mapO k ((st.pushCmd c).peekBreak rest) := by
  rw [mapO_pushCmd, mapO_peekBreak]

theorem mapO_repeatLast (k : BFlag) (st : PState) (n r : Nat) : (mapO k st).repeatLast n r = mapO k (st.repeatLast n r) := by
  unfold PState.repeatLast mapO
  cases st.stack with
  | nil => simp only [BFlag.set_eq]
  | cons f fs => rfl

theorem mapO_addFile (k : BFlag) (st : PState) (fileOk : Str → Bool) (a : Str) :
    (mapO k st).addFile fileOk a = (st.addFile fileOk a).map (mapO k) := by
  unfold PState.addFile mapO
  simp only [BFlag.set_eq]
  split
  · split <;> rfl
  · rfl

theorem map_ok {α β : Type} (f : α → β) (x : α) : (Except.ok x : Except Unit α).map f = .ok (f x) := rfl
theorem map_err {α β : Type} (f : α → β) : (Except.error () : Except Unit α).map f = .error () := rfl

/-- **A boolean option set before the remaining arguments are parsed, or after, gives the same result**,
in every parser state: the parser consults nothing of the state but the stack, which `mapO` leaves alone,
and changes it only by operations that commute with `mapO`. -/
theorem parseArgs_mapO (k : BFlag) (fileOk : Str → Bool) (args : List Str) (st : PState) :
    parseArgs fileOk args (mapO k st) = (parseArgs fileOk args st).map (mapO k) := by
  induction hn : args.length using Nat.strongRecOn generalizing args st with | _ n ih => ?_
  obtain ⟨o, stk⟩ := st
  cases args with
  | nil => rw [parseArgs_nil, parseArgs_nil, mapO_closeAll, map_ok]
  | cons a rest =>
    -- where the parser goes on, `used` operands later, it does so from states that are again related by `mapO k`
    have go (used : Nat) {s s' : PState} (h : s = mapO k s') :
        parseArgs fileOk (rest.drop used) s = (parseArgs fileOk (rest.drop used) s').map (mapO k) :=
      h ▸ ih _ (by rw [← hn, List.length_drop, List.length_cons]; omega) _ _ rfl
    have under_ite := @apply_ite_eq _ _ (Except.map (mapO k) : Except Unit PState → _)
    have atEnd := congrArg (Except.ok (ε := Unit)) (mapO_closeAll k ⟨o, stk⟩)
    -- the two sides are the same chain of tests: go down it, comparing arm with arm
    unfold parseArgs
    refine under_ite ?next <| under_ite ?rep <| under_ite ?move <| under_ite ?cut ?_
    case next =>
      cases stk with
      | nil => exact go 0 (mapO_pushCmd ..)
      | cons f fs => exact go 0 (mapO_peekBreak k ⟨o, _⟩ rest)
    case rep =>
      rcases repeatOperands rest with _ | ⟨cnt, r, used⟩
      · rfl
      · exact go used (by rw [mapO_repeatLast, mapO_peekBreak])
    case move =>
      cases rest with
      | nil => exact atEnd
      | cons x rest' => exact under_ite rfl (go 1 (mapO_push_peek ..))
    case cut =>
      cases rest with
      | nil => exact atEnd
      | cons x rest' =>
        dsimp only
        -- `rw`, not `dsimp`: it also reaches the `Decidable` instance of the test
        rw [mapO_stack]
        refine under_ite (under_ite rfl ?_) (under_ite rfl (go 1 (mapO_push_peek ..)))
        cases rest' with
        | nil => exact atEnd
        | cons x2 rest'' => exact under_ite rfl (go 2 (mapO_push_peek ..))
    cases isGlobalFlag a with
    | some pol =>
      cases rest with
      | nil => exact congrArg Except.ok (by rw [mapO_pushCmd, mapO_closeAll])
      | cons x rest' => exact under_ite rfl (go 1 rfl)
    | none =>
      cases stk with
      | cons f fs =>
        exact under_ite (go 0 (mapO_peekBreak k ⟨o, _⟩ rest))
          (under_ite (go 0 (by rw [mapO_closeOne, mapO_peekBreak])) rfl)
      | nil =>
        have flag (k' : BFlag) := go 0 (mapO_opts_set k k' ⟨o, []⟩)
        refine under_ite (flag .json) <| under_ite (flag .trace) <| under_ite (flag .linewise) <|
          under_ite (flag .serial) <| under_ite (flag .trimFields) <| under_ite (flag .keepMode) <|
          under_ite (flag .backup) <| under_ite (flag .globalLineNumbers) <| under_ite (flag .silent) <|
          under_ite (flag .inplace) <| under_ite ?template <| under_ite ?delimiter ?file
        case template =>
          cases rest with
          | nil => rfl
          | cons t rest' => exact under_ite rfl (go 1 (congrArg (PState.mk · []) (set_template k o (some t))))
        case delimiter =>
          cases rest with
          | nil => rfl
          | cons t rest' => exact under_ite rfl (go 1 (congrArg (PState.mk · []) (set_delimiter k o (some t))))
        case file =>
          rw [mapO_addFile]
          cases PState.addFile _ fileOk a with
          | error e => rfl
          | ok st' => exact go 0 rfl

/-- `parseArgs_mapO`, stated with a bound on the number of arguments. -/
theorem parse_comm (k : BFlag) (fileOk : Str → Bool) : ∀ (n : Nat) (args : List Str) (st : PState), args.length ≤ n →
    parseArgs fileOk args (mapO k st) = (parseArgs fileOk args st).map (mapO k) :=
  fun _ args st _ => parseArgs_mapO k fileOk args st

/-- **A flag met at top level is the option set after everything else has been parsed.** -/
theorem option_now_or_at_the_end (k : BFlag) (t : Str) (ht : t ∈ k.texts) (fileOk : Str → Bool) (rest : List Str) (o : POpts) :
    parseArgs fileOk (t :: rest) ⟨o, []⟩ = (parseArgs fileOk rest ⟨o, []⟩).map (mapO k) := by
  rw [flag_step k fileOk rest o t ht]
  exact parseArgs_mapO k fileOk rest ⟨o, []⟩

/-- A self-contained top-level prefix: from top level to top level, whatever follows. -/
def TopPrefix (fileOk : Str → Bool) (pre : List Str) (g : POpts → POpts) : Prop :=
  ∀ post o, parseArgs fileOk (pre ++ post) ⟨o, []⟩ = parseArgs fileOk post ⟨g o, []⟩

/-- **Option position does not matter**: the flag before or after any self-contained top-level prefix
parses alike. -/
theorem option_position (k : BFlag) (t : Str) (ht : t ∈ k.texts) (fileOk : Str → Bool) (pre post : List Str)
    (g : POpts → POpts) (hp : TopPrefix fileOk pre g) (o : POpts) :
    parseArgs fileOk (pre ++ t :: post) ⟨o, []⟩ = parseArgs fileOk (t :: (pre ++ post)) ⟨o, []⟩ := by
  rw [hp (t :: post) o, option_now_or_at_the_end k t ht, option_now_or_at_the_end k t ht, hp post o]

theorem topPrefix_append (fileOk : Str → Bool) (p1 p2 : List Str) (g1 g2 : POpts → POpts)
    (h1 : TopPrefix fileOk p1 g1) (h2 : TopPrefix fileOk p2 g2) : TopPrefix fileOk (p1 ++ p2) (g2 ∘ g1) := by
  intro post o
  rw [List.append_assoc, h1 (p2 ++ post) o, h2 post (g1 o)]; rfl

/-- Complete command flags are such prefixes: `-c keys`, `-m keys`, `-n`. -/
theorem topPrefix_cut (fileOk : Str → Bool) (keys : Str) (hk : startsWithDash keys = false) (hn : ¬ (lit "name=") <+: keys) :
    TopPrefix fileOk [lit "-c", keys] (fun o => { o with cmds := o.cmds ++ [.cut none keys] }) := by
  intro post o
  simp [parseArgs.eq_def fileOk (_ :: _), lit_inj, hn, hk]
  rfl

theorem topPrefix_move (fileOk : Str → Bool) (keys : Str) (hk : startsWithDash keys = false) :
    TopPrefix fileOk [lit "-m", keys] (fun o => { o with cmds := o.cmds ++ [.move keys] }) := by
  intro post o
  simp [parseArgs.eq_def fileOk (_ :: _), lit_inj, hk]
  rfl

theorem topPrefix_next (fileOk : Str → Bool) :
    TopPrefix fileOk [lit "-n"] (fun o => { o with cmds := o.cmds ++ [.next] }) := by
  intro post o
  simp [parseArgs.eq_def fileOk (_ :: _), lit_inj]
  rfl

example : ("-c", "--cut") ∈ documentedPairs ∧ ["-c", "--cut"] ∈ Gen.optsParseArms ∧ ["-c", "--cut"] ∈ Gen.globalArgArms := by
  decide +kernel

/-- `hd` of `option_operand_head`. -/
example : startsWithDash (lit ",") = false := by decide +kernel

/-- `-c e --json -m w` and `--json -c e -m w` (and `-c e -m w --json`) parse alike. -/
example (fileOk : Str → Bool) (o : POpts) :
    parseArgs fileOk ([lit "-c", lit "e"] ++ lit "--json" :: [lit "-m", lit "w"]) ⟨o, []⟩
      = parseArgs fileOk (lit "--json" :: ([lit "-c", lit "e"] ++ [lit "-m", lit "w"])) ⟨o, []⟩ :=
  option_position .json (lit "--json") (.head _) fileOk _ _ _ (topPrefix_cut fileOk (lit "e") (by decide) (by decide)) o

end Vicut.C18
