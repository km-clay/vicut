/-
What `parseArgs` does with a given flag is found by running it:
`simp [parseArgs.eq_def fileOk (_ :: _), lit_inj, isGlobalFlag.eq_def]`, with the head argument already a literal.
The equation is restricted to a non-empty list so that the recursive calls stay folded; `isGlobalFlag.eq_def` is a
rewrite rule because unfolding `isGlobalFlag` in place makes Lean compare `lit "…"`s character by character.
-/
import Vicut.Model.Args

namespace Vicut

/-- Flag texts are compared as `String` literals, in one `simp` step. -/
theorem lit_inj {s t : String} : lit s = lit t ↔ s = t := String.toList_inj

theorem parseArgs_nil (fileOk : Str → Bool) (st : PState) : parseArgs fileOk [] st = .ok st.closeAll := by
  -- `parseArgs.eq_1` would make Lean derive every equation of `parseArgs`
  rw [parseArgs.eq_def]

end Vicut
