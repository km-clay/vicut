import Vicut.Model.Words
import Vicut.Lemmas.Basics

/-! The scans the motion models are built from, and `ordered_eq`. -/
namespace Vicut

theorem findUp_spec {p : Nat → Bool} {it hi r : Nat} (h : findUp p it hi = some r) : it ≤ r ∧ r < hi ∧ p r = true := by
  have hm := List.mem_range'_sub (List.mem_of_find?_eq_some h)
  exact ⟨hm.1, hm.2, List.find?_some h⟩

theorem findDown_spec {p : Nat → Bool} {k r : Nat} (h : findDown p k = some r) : r < k ∧ p r = true :=
  ⟨List.mem_range.mp (List.mem_reverse.mp (List.mem_of_find?_eq_some h)), List.find?_some h⟩

/-- Fuelled, stepping up while `q` holds (`h0`, `hs`: its equations, by `rfl`): `runEnd`, `PL.runDown`, `SK.skip`,
`skipBlanks`, `blanksFwd`, `Delim.extendWs`. The last clause is induction along the scan, for bounds `q` implies. -/
theorem scanUp_spec {g : Nat → Nat → Nat} {q : Nat → Bool} (h0 : ∀ t, g 0 t = t)
    (hs : ∀ n t, g (n + 1) t = if q t then g n (t + 1) else t) (n t : Nat) :
    t ≤ g n t ∧ (∀ i, t ≤ i → i < g n t → q i = true) ∧
      ∀ I : Nat → Prop, I t → (∀ i, I i → q i = true → I (i + 1)) → I (g n t) := by
  induction n generalizing t with
  | zero => rw [h0]; exact ⟨Nat.le_refl _, fun i h1 h2 => absurd h2 (Nat.not_lt.mpr h1), fun _ h _ => h⟩
  | succ n ih =>
    rw [hs]
    split
    · next hq =>
      obtain ⟨a, b, c⟩ := ih (t + 1)
      exact ⟨Nat.le_of_succ_le a,
        fun i h1 h2 => if hi : i = t then hi ▸ hq else b i (Nat.lt_of_le_of_ne h1 (Ne.symm hi)) h2,
        fun I ht hI => c I (hI t ht hq) hI⟩
    · exact ⟨Nat.le_refl _, fun i h1 h2 => absurd h2 (Nat.not_lt.mpr h1), fun _ h _ => h⟩

/-- By recursion on the position: `runStart`, `PL.runUp`, `blanksBack`. -/
theorem scanDown_spec {f : Nat → Nat} {q : Nat → Bool} (h0 : f 0 = 0)
    (hs : ∀ i, f (i + 1) = if q i then f i else i + 1) (p : Nat) :
    f p ≤ p ∧ ∀ i, f p ≤ i → i < p → q i = true := by
  induction p with
  | zero => rw [h0]; exact ⟨Nat.le_refl _, fun i _ h => absurd h (Nat.not_lt_zero i)⟩
  | succ p ih =>
    rw [hs]
    split
    · next hq =>
      exact ⟨Nat.le_succ_of_le ih.1,
        fun i h1 h2 => if hi : i = p then hi ▸ hq else ih.2 i h1 (Nat.lt_of_le_of_ne (Nat.le_of_lt_succ h2) hi)⟩
    · exact ⟨Nat.le_refl _, fun i h1 h2 => absurd h2 (Nat.not_lt.mpr h1)⟩

theorem ordered_eq (a b : Nat) : ordered a b = (min a b, max a b) := by
  unfold ordered
  split
  · rw [Nat.min_eq_right (Nat.le_of_lt ‹_›), Nat.max_eq_left (Nat.le_of_lt ‹_›)]
  · rw [Nat.min_eq_left (Nat.le_of_not_gt ‹_›), Nat.max_eq_right (Nat.le_of_not_gt ‹_›)]

end Vicut
