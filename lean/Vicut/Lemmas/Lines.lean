/-
Line geometry. Every buffer is `tlines ls ++ last`: terminated lines, then an unterminated rest (`exists_lines`).
`line_bounds` passes over whole lines whatever follows them (`lineBoundsAux_skip`); what remains is the first
line of the rest (`lineBounds_first`).
-/
import Vicut.Model.Pos

namespace Vicut.Lines
open Vicut

/-- By graphemes: a `"\r\n"` cluster passes (`C13.Body` goes by characters). -/
def NoNl (b : List Gr) : Prop := ∀ g ∈ b, isNl g = false

theorem isNl_of_not_mem {g : Gr} (h : '\n' ∉ g) : isNl g = false :=
  beq_false_of_ne fun hg => h (hg ▸ List.mem_singleton_self _)

theorem noNl_nil : NoNl [] := fun _ h => nomatch h

theorem noNl_cons {g : Gr} {b : List Gr} : NoNl (g :: b) ↔ isNl g = false ∧ NoNl b := List.forall_mem_cons

def tlines (ls : List (List Gr)) : List Gr := (ls.map (· ++ [['\n']])).flatten

@[simp] theorem tlines_nil : tlines [] = [] := rfl

@[simp] theorem tlines_cons (l : List Gr) (ls : List (List Gr)) :
    tlines (l :: ls) = l ++ ['\n'] :: tlines ls := by
  simp [tlines]

theorem length_tlines_cons (l : List Gr) (ls : List (List Gr)) :
    (tlines (l :: ls)).length = l.length + 1 + (tlines ls).length := by
  rw [tlines_cons, List.length_append, List.length_cons, Nat.add_assoc, Nat.add_comm 1]

theorem exists_lines (gs : List Gr) :
    ∃ ls last, (∀ l ∈ ls, NoNl l) ∧ NoNl last ∧ gs = tlines ls ++ last := by
  induction gs with
  | nil => exact ⟨[], [], nofun, noNl_nil, rfl⟩
  | cons g rest ih =>
    obtain ⟨ls, last, hls, hlast, rfl⟩ := ih
    cases hg : isNl g with
    | true =>
      cases eq_of_beq hg
      exact ⟨[] :: ls, last, List.forall_mem_cons.mpr ⟨noNl_nil, hls⟩, hlast, rfl⟩
    | false =>
      cases ls with
      | nil => exact ⟨[], g :: last, nofun, noNl_cons.mpr ⟨hg, hlast⟩, rfl⟩
      | cons l ls =>
        rw [List.forall_mem_cons] at hls
        exact ⟨(g :: l) :: ls, last, List.forall_mem_cons.mpr ⟨noNl_cons.mpr ⟨hg, hls.1⟩, hls.2⟩, hlast, rfl⟩

theorem afterNl_append {b : List Gr} (hb : NoNl b) (rest : List Gr) (pos : Nat) :
    afterNl (b ++ rest) pos = afterNl rest (pos + b.length) := by
  induction b generalizing pos with
  | nil => rfl
  | cons g b ih =>
    rw [noNl_cons] at hb
    simp only [List.cons_append, afterNl, hb.1, Bool.false_eq_true, ↓reduceIte, List.length_cons]
    rw [ih hb.2, Nat.add_assoc, Nat.add_comm 1]

theorem afterNl_gt {gs : List Gr} {pos e : Nat} {rest : List Gr} (h : afterNl gs pos = some (e, rest)) : pos < e := by
  fun_induction afterNl gs pos with
  | case1 => cases h
  | case2 g rest pos =>
    cases h
    exact Nat.lt_succ_self pos
  | case3 g rest pos _ ih => exact Nat.lt_of_succ_lt (ih h)

/-- Both loops only ask `afterNl`, which passes over non-terminators. -/
theorem lineBoundsAux_append {b : List Gr} (hb : NoNl b) (max n : Nat) (rest : List Gr) (pos start : Nat) :
    lineBoundsAux max n (b ++ rest) pos start = lineBoundsAux max n rest (pos + b.length) start := by
  cases n <;> rw [lineBoundsAux, lineBoundsAux, afterNl_append hb]

/-- `pos`: where the text starts; `max`: a bound for its end (`0` and the length in `lineBounds`). -/
theorem lineBoundsAux_skip {pre : List (List Gr)} (hpre : ∀ l ∈ pre, NoNl l) (max : Nat) (rest : List Gr) (pos : Nat)
    (hmax : pos + (tlines pre).length ≤ max) :
    lineBoundsAux max pre.length (tlines pre ++ rest) pos pos
      = lineBoundsAux max 0 rest (pos + (tlines pre).length) (pos + (tlines pre).length) := by
  induction pre generalizing pos with
  | nil => rfl
  | cons l pre ih =>
    rw [List.forall_mem_cons] at hpre
    rw [length_tlines_cons, ← Nat.add_assoc, ← Nat.add_assoc] at hmax ⊢
    rw [tlines_cons, List.append_assoc, List.cons_append, lineBoundsAux_append hpre.1]
    -- the first loop passes the terminator
    show lineBoundsAux max pre.length (tlines pre ++ rest) (pos + l.length + 1) (min (pos + l.length + 1) max) = _
    rw [Nat.min_eq_left (Nat.le_trans (Nat.le_add_right _ _) hmax), ih hpre.2 _ hmax]

theorem length_lt_totalLines (ls : List (List Gr)) (rest : List Gr) : ls.length < totalLines (tlines ls ++ rest) := by
  induction ls with
  | nil => simp [totalLines]
  | cons l ls ih => simp [totalLines, List.count_append] at ih ⊢; omega

/-- Line `pre.length` starts after the lines `pre` and ends where the second loop stops behind `mid`. -/
theorem lineBounds_first {pre : List (List Gr)} {mid : List Gr} (hpre : ∀ l ∈ pre, NoNl l) (hmid : NoNl mid) (rest : List Gr) :
    lineBounds (tlines pre ++ (mid ++ rest)) pre.length
      = some (lineBoundsAux (tlines pre ++ (mid ++ rest)).length 0 rest ((tlines pre).length + mid.length)
          (tlines pre).length) := by
  have := lineBoundsAux_skip hpre (tlines pre ++ (mid ++ rest)).length (mid ++ rest) 0
    (by rw [Nat.zero_add, List.length_append]; exact Nat.le_add_right _ _)
  rw [Nat.zero_add, lineBoundsAux_append hmid] at this
  rw [lineBounds, if_neg (Nat.not_lt.mpr (Nat.le_of_lt (length_lt_totalLines pre _))), this]

theorem lineBounds_line {pre : List (List Gr)} {l : List Gr} (hpre : ∀ l ∈ pre, NoNl l) (hl : NoNl l) (post : List Gr) :
    lineBounds (tlines pre ++ (l ++ ['\n'] :: post)) pre.length
      = some ((tlines pre).length, (tlines pre).length + l.length + 1) := by
  have hin : (tlines pre).length + l.length + 1 ≤ (tlines pre ++ (l ++ ['\n'] :: post)).length := by
    simp only [List.length_append, List.length_cons]; omega
  rw [lineBounds_first hpre hl]
  -- by computation: the second loop meets the terminator at once
  exact congrArg (fun e => some (_, e)) (Nat.min_eq_left hin)

theorem lineBounds_rest {pre : List (List Gr)} {last : List Gr} (hpre : ∀ l ∈ pre, NoNl l) (hlast : NoNl last) :
    lineBounds (tlines pre ++ last) pre.length = some ((tlines pre).length, (tlines pre ++ last).length) := by
  have := lineBounds_first hpre hlast []
  rwa [List.append_nil] at this

/-- A position's line: after the whole lines `pre` and the part `mid` of the next one. -/
theorem lineBounds_mid {pre : List (List Gr)} {mid : List Gr} (hpre : ∀ l ∈ pre, NoNl l) (hmid : NoNl mid) (rest : List Gr) :
    ∃ e, lineBounds (tlines pre ++ (mid ++ rest)) pre.length = some ((tlines pre).length, e) ∧
      (tlines pre).length + mid.length ≤ e := by
  have hin : (tlines pre).length + mid.length ≤ (tlines pre ++ (mid ++ rest)).length := by
    rw [← List.append_assoc, List.length_append, List.length_append]; exact Nat.le_add_right _ _
  rw [lineBounds_first hpre hmid, lineBoundsAux]
  split
  · next h => exact ⟨_, rfl, Nat.le_min.mpr ⟨Nat.le_of_lt (afterNl_gt h), hin⟩⟩
  · exact ⟨_, rfl, hin⟩

theorem lineBoundsAux_le (max n : Nat) (gs : List Gr) {pos start : Nat} (hp : start ≤ pos) (hm : start ≤ max) :
    (lineBoundsAux max n gs pos start).1 ≤ (lineBoundsAux max n gs pos start).2 ∧
      (lineBoundsAux max n gs pos start).2 ≤ max := by
  fun_induction lineBoundsAux max n gs pos start with
  | case1 gs pos start e _ h =>
    exact ⟨Nat.le_min.mpr ⟨Nat.le_trans hp (Nat.le_of_lt (afterNl_gt h)), hm⟩, Nat.min_le_right _ _⟩
  | case3 n gs pos start e rest h ih => exact ih (Nat.min_le_left _ _) (Nat.min_le_right _ _)
  | case2 | case4 => exact ⟨hm, Nat.le_refl _⟩

theorem lineBounds_le {gs : List Gr} {n : Nat} {b : Nat × Nat} (h : lineBounds gs n = some b) :
    b.1 ≤ b.2 ∧ b.2 ≤ gs.length := by
  rw [lineBounds] at h
  split at h
  · cases h
  · cases h
    exact lineBoundsAux_le _ n gs (Nat.le_refl 0) (Nat.zero_le _)

theorem sliceText_line (a l post : List Gr) :
    sliceText (a ++ (l ++ ['\n'] :: post)) a.length (a.length + l.length + 1) = some (l.flatten ++ ['\n']) := by
  have hin : a.length < (a ++ (l ++ ['\n'] :: post)).length ∧ a.length + l.length + 1 ≤ (a ++ (l ++ ['\n'] :: post)).length := by
    simp only [List.length_append, List.length_cons]; omega
  rw [sliceText, if_pos hin, List.drop_left, Nat.add_assoc, Nat.add_sub_cancel_left, List.take_length_add_append,
    List.flatten_append]
  rfl

theorem sliceText_rest (a : List Gr) {last : List Gr} (h : last ≠ []) :
    sliceText (a ++ last) a.length (a ++ last).length = some last.flatten := by
  have := List.length_pos_iff.mpr h
  rw [sliceText, if_pos (by simp only [List.length_append]; omega)]
  simp

theorem NoNl.countNl {b : List Gr} (h : NoNl b) : countNl b = 0 := by
  simpa [Vicut.countNl, List.countP_eq_zero] using fun g hg => h g hg

theorem countNl_tlines {pre : List (List Gr)} (hpre : ∀ l ∈ pre, NoNl l) (rest : List Gr) :
    countNl (tlines pre ++ rest) = pre.length + countNl rest := by
  induction pre with
  | nil => rw [tlines_nil, List.nil_append, List.length_nil, Nat.zero_add]
  | cons l pre ih =>
    rw [List.forall_mem_cons] at hpre
    rw [tlines_cons, List.append_assoc, List.cons_append, countNl, List.countP_append, List.countP_cons_of_pos rfl,
      ← countNl, ← countNl, hpre.1.countNl, ih hpre.2, List.length_cons]
    omega

end Vicut.Lines
